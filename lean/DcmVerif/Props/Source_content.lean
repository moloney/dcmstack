import DcmVerif.Proofs.Code_content
/-! The tie by proof (dcmmeta.py: filter_meta, clear_slice_meta, get_keys): functions translated from the Python source on every run
(`tools/gen_code.py` → `Generated/Code_content.lean`) are the model functions the property theorems speak about.
Statements only; proofs are by reference to `Proofs/Code_content.lean`. One file per function group, so that an edit
of one function only unsettles the properties that depend on it. -/
set_option autoImplicit false

namespace Source
variable {α κ : Type}
open Src
variable [DecidableEq κ]

/-- **`filter_meta` as written in dcmmeta.py filters the dictionary of every valid classification** — the entries for which
    the filter function returns true are removed, every other entry and every other dictionary is left as it was -/
theorem filter_meta_filters_every_valid_dictionary (shape : List Nat) (valid : List Cls) (hv : Py.get_valid_classes shape = .ok valid)
    (content : Content κ α) (h : ContentOk valid content) (f : κ → List α → Bool) :
    Py.filter_meta shape content f =
      .ok (content.map fun p => if p.1 ∈ valid then (p.1, filt f p.2) else p) :=
  Src.filter_meta_eq shape valid hv content h f

/-- **`filter_meta` as written in dcmmeta.py is the model's `filterMeta`** for a filter that looks at the key (as the regular
    expression filter of C14 does): on the classification dictionaries of any extension with 3 to 5 axes whose keys are unique,
    the method leaves the dictionaries of the model's result -/
theorem filter_meta_is_model (e : DExt κ α) (h3 : 3 ≤ e.shape.length) (h5 : e.shape.length ≤ 5)
    (hn : (e.ents.map (·.1)).Nodup) (drop : κ → Bool) :
    Py.filter_meta e.shape (toContent e) (fun k _ => drop k) = .ok (toContent (e.filterMeta drop)) :=
  Src.filter_meta_model e h3 h5 hn drop

/-- **`clear_slice_meta` as written in dcmmeta.py is the model's `clearSliceMeta`** -/
theorem clear_slice_meta_is_model (e : DExt κ α) (h3 : 3 ≤ e.shape.length) (h5 : e.shape.length ≤ 5) :
    Py.clear_slice_meta e.shape (toContent e) = .ok (toContent e.clearSliceMeta) :=
  Src.clear_slice_meta_model e h3 h5

/-- **`get_keys` as written in dcmmeta.py lists exactly the model's `keys`** (classification by classification) for an
    extension whose entries sit in valid classifications -/
theorem get_keys_is_model (e : DExt κ α) (h3 : 3 ≤ e.shape.length) (h5 : e.shape.length ≤ 5)
    (hcls : ∀ x ∈ e.ents, x.2.1 ∈ validClasses e.shp) :
    ∃ ks, Py.get_keys e.shape (toContent e) = .ok ks ∧ ∀ k, k ∈ ks ↔ k ∈ e.keys :=
  Src.get_keys_model e h3 h5 hcls

/-- the translator translated every function of this group (dcmmeta.py: filter_meta, clear_slice_meta, get_keys) -/
theorem translator_complete_content : Gen.codeMissing_content = [] := rfl

end Source
