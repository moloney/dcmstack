import DcmVerif.Props.Source_dicts
import DcmVerif.Props.Source_classes
import DcmVerif.Props.Source_simplify
import DcmVerif.Props.Source_shapes
import DcmVerif.Props.Source_valid
import DcmVerif.Proofs.Chains
import DcmVerif.Proofs.Produced
import DcmVerif.Proofs.Ext
/-! Property theorems for C07. Statements only; proofs are by reference to `Proofs/`. -/
set_option autoImplicit false
open Cls

namespace C07
variable {α : Type} [DecidableEq α]

theorem merge_valid_slice (null : α) (sh1 : Shp) (hc1 : Consistent sh1)
    (inputs : List (KeyState α)) (hin : ∀ b, b ∈ inputs → ValidK { sh1 with S := 1 } b)
    (r : KeyState α) (h : mergeSliceK null sh1 inputs = .ok r) :
    ValidK { sh1 with S := inputs.length } r :=
  (mergeSlice_den null sh1 hc1 inputs hin h).1

theorem merge_valid_time (null : α) (sh1 osh : Shp)
    (hS : 0 < sh1.S) (hsl : sh1.hasSlice = true) (nd4 : sh1.nd = 4) (v1 : sh1.V = 1)
    (hvec : sh1.hasVector = false)
    (ond : osh.nd = 3) (oS : osh.S = sh1.S) (oT : osh.T = 1) (oV : osh.V = 1)
    (ohsl : osh.hasSlice = true)
    (inputs : List (KeyState α)) (hin : ∀ b, b ∈ inputs → ValidK osh b)
    (r : KeyState α) (h : mergeTimeK null sh1 osh inputs = .ok r) :
    ValidK { sh1 with T := inputs.length } r :=
  (mergeTime_den null sh1 osh (timeSetup_of hS hsl nd4 v1 ond oS oT oV ohsl) hvec inputs hin h).1

/-- `_simplify` stores the right number of values under a class that is valid for the shape -/
theorem simplify_valid (null : α) (sh : Shp) (wf : WF sh) (hsl : sh.hasSlice = true)
    (hbase : ∀ d, basePresent sh d = true → d ∈ validClasses sh)
    (c : Cls) (vals : List α) (hlen : vals.length = mult sh c) (d : Cls) (out : List α)
    (h : simplifyK null sh c vals = .ok (.moved d out))
    (hbug : ¬ (c = vslices ∧ d = tsamples ∧ 1 < sh.V)) :
    d ∈ validClasses sh ∧ out.length = mult sh d :=
  _root_.simplify_valid null sh wf hsl hbase c vals hlen d out h hbug

/-- **C04 (slice axis, per key):** the piece is valid for the one-slice shape, reads the parent at
    the fixed slice, and never stores the key per slice. -/
theorem subset_slice_valid (null : α) (sh : Shp) (hc : Consistent sh)
    (ks : KeyState α) (hv : ValidK sh ks) (idx : Nat) (hidx : idx < sh.S)
    (p : KeyState α) (h : subsetSliceK null sh ks idx = .ok p) :
    ValidK { sh with S := 1 } p ∧ nonSliceClass p ∧
    ∀ t v, t < sh.T → v < sh.V →
      lookupKS null { sh with S := 1 } p 0 t v = lookupKS null sh ks idx t v :=
  have := subsetSlice_den null sh hc (Den.self hv) idx hidx h
  ⟨this.1.1, this.2, fun t v ht hv' => this.1.2 0 t v ⟨Nat.one_pos, ht, hv'⟩⟩

/-- **C04 (time axis, 4-D parent, per key):** the piece is a valid 3-D key state that reads the
    parent at the fixed time point. -/
theorem subset_time_valid (null : α) (sh : Shp) (hc : Consistent sh) (h4 : sh.nd = 4)
    (ks : KeyState α) (hv : ValidK sh ks) (idx : Nat) (hidx : idx < sh.T)
    (p : KeyState α) (h : subsetTimeK null sh ks idx = .ok p) :
    ValidK (timeSubsetShp sh) p ∧
    ∀ s, s < sh.S → lookupKS null (timeSubsetShp sh) p s 0 0 = lookupKS null sh ks s idx 0 :=
  have := subsetTime_den null sh hc (Or.inl h4) (by omega) (Den.self hv) idx hidx h
  ⟨this.1, fun s hs => this.2 s 0 0 (Box.timeSubset hs hc.hV)⟩

/-- **C04 (vector axis, 5-D parent, per key)** -/
theorem subset_vector_valid (null : α) (sh : Shp) (hc : Consistent sh) (h5 : sh.nd = 5)
    (ks : KeyState α) (hv : ValidK sh ks) (idx : Nat) (hidx : idx < sh.V)
    (p : KeyState α) (h : subsetVecK null sh ks idx = .ok p) :
    ValidK (vecSubsetShp sh) p ∧
    ∀ s t, s < sh.S → t < sh.T →
      lookupKS null (vecSubsetShp sh) p s t 0 = lookupKS null sh ks s t idx :=
  have := subsetVec_den null sh hc h5 (Den.self hv) idx hidx h
  ⟨this.1, fun s t hs ht => this.2 s t 0 (Box.vecSubset hs ht)⟩

/-- the list `_copy_slice` stores has the multiplicity of its destination class -/
theorem subset_slice_raw_valid (sh : Shp) (wf : WFnd sh) (hsl : sh.hasSlice = true) (c : Cls)
    (hps : perSlice c = true) (hv : c ∈ validClasses sh) (vals : List α)
    (hlen : vals.length = mult sh c) (idx : Nat) (hidx : idx < sh.S) :
    let rs := sliceSubsetShp sh
    let d := copySliceDest (validClasses rs) c
    d ∈ validClasses rs ∧ (copySliceVals sh.S (mult rs d) idx vals).length = mult rs d ∧
      (d = gconst ∨ d = tsamples ∨ d = vsamples) :=
  have := copySlice_tab sh wf hsl hps hv (Tab.self sh c vals hlen) idx hidx
  ⟨this.1, this.2.2.1, this.2.1⟩

/-- `make_empty` yields an extension in which every classification valid for the shape has its
    base dictionary (what `check_valid` demands) … -/
theorem makeEmpty_bases {κ : Type} [DecidableEq κ] (shape : List Nat) (sd : Option Nat) (e : DExt κ α)
    (h : DExt.makeEmpty shape sd = .ok e) :
    ∀ c, c ∈ validClasses e.shp → basePresent e.shp c = true :=
  DExt.makeEmpty_bases shape sd e h

/-- … and which is valid; shapes outside 3–5 dimensions and slice dims outside 0..2 are refused. -/
theorem makeEmpty_valid {κ : Type} [DecidableEq κ] (shape : List Nat) (sd : Option Nat) (e : DExt κ α)
    (h : DExt.makeEmpty shape sd = .ok e) : e.validB = true :=
  DExt.makeEmpty_validB shape sd e h

theorem makeEmpty_refuses {κ : Type} [DecidableEq κ] (shape : List Nat) (sd : Option Nat)
    (h : ¬ (3 ≤ shape.length ∧ shape.length < 6) ∨ ∃ d, sd = some d ∧ 3 ≤ d) :
    DExt.makeEmpty (κ := κ) (α := α) shape sd = .valueError :=
  DExt.makeEmpty_refuses shape sd h

/-- the result of a vector merge is valid for the merged shape -/
theorem merge_valid_vector (null : α) (sh1 osh : Shp)
    (hS : 0 < sh1.S) (hT : 0 < sh1.T) (hsl : sh1.hasSlice = true) (nd5 : sh1.nd = 5)
    (hvec : sh1.hasVector = true) (htime : sh1.hasTime = true ↔ sh1.T ≠ 1)
    (ohsl : osh.hasSlice = true) (oS : osh.S = sh1.S) (oT : osh.T = sh1.T) (oV : osh.V = 1)
    (ond : (osh.nd = 3 ∧ sh1.T = 1) ∨ (osh.nd = 4 ∧ sh1.T ≠ 1))
    (inputs : List (KeyState α)) (hin : ∀ b, b ∈ inputs → ValidK osh b)
    (r : KeyState α) (h : mergeVecK null sh1 osh inputs = .ok r) :
    ValidK { sh1 with V := inputs.length } r :=
  (mergeVec_den null sh1 osh (vecSetup_of hS hT hsl nd5 ohsl oS oT oV ond) htime.mp inputs hin h).1

/-- **conversion produces a valid summary:** the key state embedded by `to_nifti` for a complete
    S × T × V stack is valid for the shape of the image -/
theorem convert_valid (null : α) (S T V : Nat) (hS : 0 < S) (hT : 2 ≤ T)
    (val : Nat → Nat → Nat → Option α)
    (vol : Nat → Nat → KeyState α) (vec : Nat → KeyState α) (r : KeyState α)
    (hvol : ∀ t v, t < T → v < V →
      mergeSliceK null ⟨3, 1, 1, 1, true, false, false⟩
        ((List.range S).map fun s => fileKS (val s t v)) = .ok (vol t v))
    (hvec : ∀ v, v < V →
      mergeTimeK null ⟨4, S, 1, 1, true, true, false⟩ ⟨3, S, 1, 1, true, false, false⟩
        ((List.range T).map fun t => vol t v) = .ok (vec v))
    (hfin : mergeVecK null ⟨5, S, T, 1, true, true, true⟩ ⟨4, S, T, 1, true, true, false⟩
        ((List.range V).map vec) = .ok r) :
    ValidK ⟨5, S, T, V, true, true, true⟩ r :=
  Total.convert_valid null S T V hS hT val vol vec r hvol hvec hfin

/-- **closure under chains of splits (one key):** from a valid key of a consistent shape (vector
    axis, if any, with ≥ 2 components), every applicable sequence of slice / time / vector subsets
    of any length runs through without an error and ends in a valid key of a consistent shape.
    `runOps` returns `none` only when a step does not apply (axis absent, index out of range). -/
theorem split_chain_valid (null : α) (ops : List Chain.SubOp) (sh : Shp) (ks : KeyState α)
    (hg : Chain.Good sh) (hv : ValidK sh ks) (sh' : Shp) (res : Except Err (KeyState α))
    (h : Chain.runOps null sh ks ops = some (sh', res)) :
    Chain.Good sh' ∧ ∃ ks', res = .ok ks' ∧ ValidK sh' ks' :=
  Chain.chain_valid null ops sh ks hg hv sh' res h

/-- **closure under every combination of splits and merges (one key):** whatever is obtained from
    valid key states by pieces of slice / time / vector splits and by slice / time / vector merges,
    nested in any way and with any number of inputs (`Chain.Produced`), is valid for a consistent
    shape -/
theorem produced_valid (null : α) (sh : Shp) (ks : KeyState α) (h : Chain.Produced null sh ks) :
    Chain.Good sh ∧ ValidK sh ks :=
  Chain.produced_valid null sh ks h

/-- … and the operations cannot fail on such states, so the set is closed under the operations
    themselves: slice split, -/
theorem produced_slice_split_total (null : α) (sh : Shp) (ks : KeyState α)
    (h : Chain.Produced null sh ks) (i : Nat) (hi : i < sh.S) :
    ∃ p, subsetSliceK null sh ks i = .ok p ∧ Chain.Produced null (sliceSubsetShp sh) p :=
  Chain.produced_slice_ok null sh ks h i hi

/-- time split, -/
theorem produced_time_split_total (null : α) (sh : Shp) (ks : KeyState α)
    (h : Chain.Produced null sh ks) (h45 : sh.nd = 4 ∨ sh.nd = 5) (i : Nat) (hi : i < sh.T) :
    ∃ p, subsetTimeK null sh ks i = .ok p ∧ Chain.Produced null (timeSubsetShp sh) p :=
  Chain.produced_time_ok null sh ks h h45 i hi

/-- vector split, -/
theorem produced_vector_split_total (null : α) (sh : Shp) (ks : KeyState α)
    (h : Chain.Produced null sh ks) (h5 : sh.nd = 5) (i : Nat) (hi : i < sh.V) :
    ∃ p, subsetVecK null sh ks i = .ok p ∧ Chain.Produced null (vecSubsetShp sh) p :=
  Chain.produced_vec_ok null sh ks h h5 i hi

/-- slice merge of any number of produced pieces -/
theorem produced_slice_merge_total (null : α) (sh1 : Shp) (hg : Chain.Good sh1)
    (a : KeyState α) (rest : List (KeyState α))
    (hin : ∀ b, b ∈ a :: rest → Chain.Produced null { sh1 with S := 1 } b) :
    ∃ r, mergeSliceK null sh1 (a :: rest) = .ok r ∧
      Chain.Produced null { sh1 with S := (a :: rest).length } r :=
  Chain.produced_mergeSlice_ok null sh1 hg a rest hin

end C07
