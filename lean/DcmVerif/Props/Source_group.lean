import DcmVerif.Proofs.Code_group
/-! The tie by proof (dcmstack.py: the placement step of parse_and_group): functions translated from the Python source on every run
(`tools/gen_code.py` → `Generated/Code_group.lean`) are the model functions the property theorems speak about.
Statements only; proofs are by reference to `Proofs/Code_group.lean`. One file per function group, so that an edit
of one function only unsettles the properties that depend on it. -/
set_option autoImplicit false

namespace Source
open Src Grp
variable {E V : Type} [DecidableEq E]

/-- **the placement step of `parse_and_group` as written in dcmstack.py is the model's `Grp.place`** (closeness of two close keys
    being the element-wise comparison the inner loop makes), for a `results` dictionary — an association list with pairwise
    different keys: a new exact key gets a new entry, otherwise the file joins the first sub-result whose close key agrees, or
    opens a new one -/
theorem group_place_is_model (closeV : V → V → Bool) (results : List (E × Subs (List (Option V)))) (key : E)
    (c : List (Option V)) (id : Nat) (hnd : (results.map (·.1)).Nodup) :
    Py.group_place closeV results key c id = .ok (place (closeAll closeV) id key c results) :=
  Src.group_place_eq closeV results key c id hnd

/-- the hypothesis of `group_place_is_model` is an invariant of the loop: placing a file keeps the exact keys pairwise different -/
theorem group_place_keeps_keys_distinct {C : Type} (closeB : C → C → Bool) (id : Nat) (e : E) (c : C) (results : List (E × Subs C))
    (h : (results.map (·.1)).Nodup) : ((place closeB id e c results).map (·.1)).Nodup :=
  Grp.place_nodup closeB id e c results h

/-- the translator translated every function of this group (dcmstack.py: the placement step of parse_and_group) -/
theorem translator_complete_group : Gen.codeMissing_group = [] := rfl

end Source
