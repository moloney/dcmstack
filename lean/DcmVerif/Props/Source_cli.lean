import DcmVerif.Proofs.Code_cli
/-! The tie by proof (dcmstack_cli.py: the naming of output files in main): functions translated from the Python source on every run
(`tools/gen_code.py` → `Generated/Code_cli.lean`) are the model functions the property theorems speak about.
Statements only; proofs are by reference to `Proofs/Code_cli.lean`. One file per function group, so that an edit
of one function only unsettles the properties that depend on it. -/
set_option autoImplicit false

namespace Source
open Src Cli

/-- **the naming of an output file in `dcmstack_cli.main`, as written, is the step of the model's `outNames`**: whenever the model
    yields a name the code yields that name, records it and advances the group counter -/
theorem cli_out_name_is_model (fmt : Nat → String) (gen : List String) (n : String) (idx : Nat) (c : String)
    (h : chosenName fmt gen n idx = some c) :
    Py.cli_out_name fmt gen n idx = .ok (c, c :: gen, idx + 1) :=
  Src.cli_out_name_eq fmt gen n idx c h

/-- the translator translated every function of this group (dcmstack_cli.py: the naming of output files in main) -/
theorem translator_complete_cli : Gen.codeMissing_cli = [] := rfl

end Source
