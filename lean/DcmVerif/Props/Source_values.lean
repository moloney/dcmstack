import DcmVerif.Proofs.Code_values
/-! The tie by proof (dcmmeta.py: value-list arithmetic of get_subset / from_sequence (_get_changed_class, _copy_slice, _global_slice_subset, the interleaving of _insert_slice / _insert_sample)): functions translated from the Python source on every run
(`tools/gen_code.py` → `Generated/Code_values.lean`) are the model functions the property theorems speak about.
Statements only; proofs are by reference to `Proofs/Code_values.lean`. One file per function group, so that an edit
of one function only unsettles the properties that depend on it. -/
set_option autoImplicit false
set_option linter.unusedVariables false
open Cls

namespace Source
variable {α κ : Type}
open Src

/-- **`_get_changed_class` as written in dcmmeta.py is the model's `getChangedK`** for extensions of three to five axes with
    positive sizes, a key that is absent or held under a class valid for the shape with non-zero multiplicity (a per-slice class in
    an extension without slice dimension makes Python divide by zero; `check_valid` rejects such content), any target class and
    any `slice_dim` argument inside the shape: same values, and `ValueError` exactly when the change would lose data -/
theorem get_changed_class_is_model [DecidableEq α] (null : α) (e : DExt κ α) (sd : Nat)
    (h3 : 3 ≤ e.shape.length) (h5 : e.shape.length ≤ 5) (hpos : ∀ x ∈ e.shape, 0 < x) (hsd : sd < e.shape.length)
    (ks : KeyState α) (hks : ∀ c v, ks = some (c, v) → c ∈ validClasses e.shp ∧ mult e.shp c ≠ 0) (new : Cls) :
    Py.get_changed_class e.shape (e.sliceDim.map fun d => e.shape.getD d 1) (valuesOf null ks) (ks.map (·.1)) new (some sd) =
      errV (getChangedK null (e.shp (some sd)) ks new) :=
  Src.get_changed_class_eq null e sd h3 h5 hpos hsd ks hks new

/-- **the destination class `_copy_slice` picks as written in dcmmeta.py is the model's `copySliceDest`**, for the per-slice
    classes it is called with and a result in which global constants are valid (they always are) -/
theorem copy_slice_dest_is_model (valid : List Cls) (c : Cls) (hc : perSlice c = true) (hg : gconst ∈ valid) :
    Py.copy_slice_dest valid c = .ok (copySliceDest valid c) :=
  Src.copy_slice_dest_eq valid c hc hg

/-- **the values `_copy_slice` stores as written in dcmmeta.py are the model's `copySliceVals`** whenever the strided subset is
    not empty (or nothing has to be repeated) … -/
theorem copy_slice_vals_is_model (vals : List α) (idx st destMult : Nat)
    (h : (stride st (vals.drop idx)).length ≠ 0 ∨ destMult = 0) :
    Py.copy_slice_vals vals idx st destMult = .ok (copySliceVals st destMult idx vals) :=
  Src.copy_slice_vals_eq vals idx st destMult h

/-- … and when it is empty while the destination needs values, Python divides by zero (`ZeroDivisionError`) -/
theorem copy_slice_vals_zero_div (vals : List α) (idx st destMult : Nat)
    (h0 : (stride st (vals.drop idx)).length = 0) (hd : 0 < destMult) :
    Py.copy_slice_vals vals idx st destMult = .error PyErr.zeroDivision :=
  Src.copy_slice_vals_zero_div vals idx st destMult h0 hd

/-- **`_global_slice_subset` as written in dcmmeta.py is the model's `globalSliceSubset`** (a vector sample of a five-axis
    extension, or a time sample of a four- or five-axis one) -/
theorem global_slice_subset_is_model [DecidableEq α] (e : DExt κ α) (isTime : Bool) (h4 : 4 ≤ e.shape.length) (h5 : e.shape.length ≤ 5)
    (hv : isTime = false → e.shape.length = 5) (idx : Nat) (vals : List α) :
    Py.global_slice_subset e.shape e.shp.S vals (if isTime then "time" else "vector") idx =
      .ok (globalSliceSubset e.shp isTime idx vals) :=
  Src.global_slice_subset_eq e isTime h4 h5 hv idx vals

/-- **the interleaving block of `_insert_slice` as written in dcmmeta.py is the model's `interleave`** over the `T·V` volumes -/
theorem insert_slice_interleave_is_model (e : DExt κ α) (sdArg : Option Nat) (h3 : 3 ≤ e.shape.length) (h5 : e.shape.length ≤ 5)
    (m : Nat) (lv ov : List α) :
    Py.insert_slice_interleave e.shape (e.shp sdArg).S m lv ov =
      .ok (interleave (e.shp sdArg).S m ((e.shp sdArg).T * (e.shp sdArg).V) lv ov) :=
  Src.insert_slice_interleave_eq e sdArg h5 m lv ov

/-- **the interleaving block of `_insert_sample` as written in dcmmeta.py is the model's `interleave`** (five axes: per vector
    component, `S·T` held values then `S·T'` new ones) -/
theorem insert_sample_interleave_is_model (e : DExt κ α) (sdArg : Option Nat) (h5 : e.shape.length = 5)
    (t3 : Nat) (lv ov : List α) :
    Py.insert_sample_interleave e.shape (e.shp sdArg).S t3 lv ov =
      .ok (interleave ((e.shp sdArg).S * (e.shp sdArg).T) ((e.shp sdArg).S * t3) (e.shp sdArg).V lv ov) :=
  Src.insert_sample_interleave_eq e sdArg h5 t3 lv ov

/-- Python's `values[start::step]` is the model's `stride step (values.drop start)` -/
theorem slice_step_is_model (l : List α) (start p : Nat) : pyStep l start p = stride p (l.drop start) :=
  Src.pyStep_eq l start p

/-- **`_get_changed_class` without a `slice_dim` argument** (as `_change_class` calls it) is the model's `getChangedK` too, whenever the extension has a slice dimension of its own
    or the target class is not per slice (otherwise Python reads `shape[None]`: TypeError) -/
theorem get_changed_class_no_slice_dim_is_model [DecidableEq α] (null : α) (e : DExt κ α)
    (h3 : 3 ≤ e.shape.length) (h5 : e.shape.length ≤ 5) (hpos : ∀ x ∈ e.shape, 0 < x)
    (ks : KeyState α) (hks : ∀ c v, ks = some (c, v) → c ∈ validClasses e.shp ∧ mult e.shp c ≠ 0) (new : Cls)
    (hn : e.sliceDim.isSome = true ∨ perSlice new = false) :
    Py.get_changed_class e.shape (e.sliceDim.map fun d => e.shape.getD d 1) (valuesOf null ks) (ks.map (·.1)) new none =
      errV (getChangedK null (e.shp none) ks new) :=
  Src.get_changed_class_none_eq null e h3 h5 hpos ks hks new hn

/-- the translator translated every function of this group (dcmmeta.py: value-list arithmetic of get_subset / from_sequence (_get_changed_class, _copy_slice, _global_slice_subset, the interleaving of _insert_slice / _insert_sample)) -/
theorem translator_complete_values : Gen.codeMissing_values = [] := rfl

end Source
