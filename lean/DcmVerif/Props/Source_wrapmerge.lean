import DcmVerif.Proofs.Code_wrapmerge
/-! The tie by proof (dcmmeta.py: NiftiWrapper.from_sequence index expressions): functions translated from the Python source on every run
(`tools/gen_code.py` → `Generated/Code_wrapmerge.lean`) are the model functions the property theorems speak about.
Statements only; proofs are by reference to `Proofs/Code_wrapmerge.lean`. One file per function group, so that an edit
of one function only unsettles the properties that depend on it. -/
set_option autoImplicit false

namespace Source
open Src Wrap

theorem wrap_merge_shape_is_model (shape : List Nat) (dim n : Nat) :
    Py.wrap_merge_shape shape dim n = .ok (mergeShape shape dim n) :=
  Src.wrap_merge_shape_eq shape dim n

/-- **the index expression the inputs of `from_sequence` are written through, as written in
    dcmmeta.py, is the model's `fillSpecs`** -/
theorem fill_specs_is_model (rshape : List Nat) (dim i : Nat) :
    Py.fill_specs rshape dim i = .ok (fillSpecs rshape dim i) :=
  Src.fill_specs_eq rshape dim i

/-- the translator translated every function of this group (dcmmeta.py: NiftiWrapper.from_sequence index expressions) -/
theorem translator_complete_wrapmerge : Gen.codeMissing_wrapmerge = [] := rfl

end Source
