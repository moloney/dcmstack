import DcmVerif.Proofs.Orient
/-! Property theorems for C02_orient. Statements only; proofs are by reference to `Proofs/`. -/
set_option autoImplicit false

namespace C02
open Orient

/-- **C17, voxel / transform identity:** for each of the 48 transforms, every shape and every output
    index in range, the returned matrix maps the output index to the input index whose voxel
    `apply_orientation` put there, and that index is in range. -/
theorem reorient_transform_maps_back (t : List (Nat × Bool)) (ht : t ∈ allT) (a b c x y z : Nat)
    (hx : x < (outShape t [a, b, c]).getD 0 0) (hy : y < (outShape t [a, b, c]).getD 1 0)
    (hz : z < (outShape t [a, b, c]).getD 2 0) :
    matVec (invOrntAff t [a, b, c]) [x, y, z] = (srcIndex t [a, b, c] [x, y, z]).map Int.ofNat ∧
    (srcIndex t [a, b, c] [x, y, z]).getD 0 0 < a ∧
    (srcIndex t [a, b, c] [x, y, z]).getD 1 0 < b ∧
    (srcIndex t [a, b, c] [x, y, z]).getD 2 0 < c :=
  Orient.matVec_eq_srcIndex (Orient.allT_perm t ht) a b c x y z hx hy hz

theorem order_change_is_signed_perm (s e : Ornt) (hs : s ∈ all48) (he : e ∈ all48) :
    ∃ t, orntTransform s e = some t ∧ applyTo s t = e :=
  Orient.transform_reaches_code s e hs he

/-- the output shape is the permuted input shape -/
theorem reorder_shape_perm (t : List (Nat × Bool)) (ht : t ∈ allT) (a b c : Nat) :
    (outShape t [a, b, c]).Perm [a, b, c] :=
  Orient.outShape_perm (Orient.allT_perm t ht) rfl

/-- **C20 / C02: the permutation returned by the reordering tells where every source axis went:**
    output axis `t[i].1` carries the affine column of input axis `i` (negated when flipped), so
    `permutation[2]` is the axis along which the source slices are stacked and `permutation[0/1]`
    keep pointing along the source row / column directions -/
theorem axes_follow_permutation (t : List (Nat × Bool)) (ht : t ∈ allT) (c0 c1 c2 : Col) (i : Nat) (hi : i < 3) :
    (mulCols [c0, c1, c2] t)[(t.getD i (0, true)).1]? =
      ([c0, c1, c2][i]?).map fun c => { c with pos := if (t.getD i (0, true)).2 then c.pos else !c.pos } :=
  Orient.mulCols_axis (Orient.allT_perm t ht) [c0, c1, c2] rfl i hi

/-- the orientation `io_orientation` reads from `affine · T` is the start orientation pushed
    through the transform -/
theorem reordered_affine_orientation (cols : List Col) (t : List (Nat × Bool)) :
    ioOrientation (mulCols cols t) = applyTo (ioOrientation cols) t :=
  Orient.ioOrientation_mulCols cols t

end C02
