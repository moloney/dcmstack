import DcmVerif.Proofs.Ext
/-! Property theorems for C14_ext. Statements only; proofs are by reference to `Proofs/`. -/
set_option autoImplicit false

namespace C14
variable {α : Type} [DecidableEq α] {κ : Type} [DecidableEq κ]

/-- **C14, `filter_keys`:** after filtering the entries are exactly the old entries whose key the
    filter does not remove — in every classification, values untouched -/
theorem filter_entries (e : DExt κ α) (drop : κ → Bool) (x : κ × Cls × List α) :
    x ∈ (e.filterMeta drop).ents ↔ x ∈ e.ents ∧ drop x.1 = false :=
  DExt.filterMeta_ents e drop x

theorem filter_keys (e : DExt κ α) (drop : κ → Bool) (k : κ) :
    k ∈ (e.filterMeta drop).ents.map (·.1) ↔ k ∈ e.ents.map (·.1) ∧ drop k = false :=
  DExt.filterMeta_keys e drop k

theorem filter_geometry (e : DExt κ α) (drop : κ → Bool) :
    (e.filterMeta drop).shape = e.shape ∧ (e.filterMeta drop).sliceDim = e.sliceDim ∧
    (e.filterMeta drop).hasTime = e.hasTime ∧ (e.filterMeta drop).hasVector = e.hasVector :=
  DExt.filterMeta_geometry e drop

/-- filtering keeps a valid extension valid -/
theorem filter_valid (e : DExt κ α) (drop : κ → Bool) (h : e.validB = true) :
    (e.filterMeta drop).validB = true :=
  DExt.filterMeta_validB e drop h

end C14
