import DcmVerif.Proofs.Stack
/-! Property theorems for C01_stack. Statements only; proofs are by reference to `Proofs/`. -/
set_option autoImplicit false

namespace C01
open Stk

/-- **metadata follows data (C01, C20):** the volume block `t + T·v`, position `k` of the order
    used for embedded metadata and slice times after a slice-flipping conversion is the file whose
    pixels `get_data` put at slice `S − 1 − k` — the slice that the flip moves to output slice `k`. -/
theorem meta_follows_flipped_data (S T V : Nat) (L : List F) (hlen : L.length = S * (T * V))
    (k t v : Nat) (hk : k < S) (ht : t < T) (hv : v < V) :
    (reverseBlocks S (T * V) L)[(t + T * v) * S + k]? = L[fileIdx S T (S - 1 - k) t v]? :=
  Stk.meta_follows_flipped_data S T V L hlen k t v hk ht hv

/-- `get_data` places slice `s`, time `t`, vector `v` from file number `fileIdx`; the index is in
    range and distinct cells get distinct files (so every file fills exactly one cell) -/
theorem fill_index_in_range (S T V s t v : Nat) (hs : s < S) (ht : t < T) (hv : v < V) :
    fileIdx S T s t v < S * T * V :=
  Stk.fileIdx_lt S T V s t v hs ht hv

theorem fill_index_injective (S T s t v s' t' v' : Nat) (hs : s < S) (ht : t < T) (hs' : s' < S)
    (ht' : t' < T) (h : fileIdx S T s t v = fileIdx S T s' t' v') : s = s' ∧ t = t' ∧ v = v' :=
  Stk.fileIdx_inj S T s t v s' t' v' hs ht hs' ht' h

end C01
