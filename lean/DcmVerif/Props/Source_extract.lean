import DcmVerif.Proofs.Code_extract
/-! The tie by proof (extract.py: the default ignore rules of MetaExtractor): functions translated from the Python source on every run
(`tools/gen_code.py` → `Generated/Code_extract.lean`) are the model functions the property theorems speak about.
Statements only; proofs are by reference to `Proofs/Code_extract.lean`. One file per function group, so that an edit
of one function only unsettles the properties that depend on it. -/
set_option autoImplicit false

namespace Source
open Src Ex

/-- **`ignore_private` as written in extract.py is the model's `ignorePrivate`** -/
theorem ignore_private_is_model (e : Elem) : Py.ignore_private e = .ok (ignorePrivate e) :=
  Src.ignore_private_eq e

/-- **`ignore_pixel_data` as written in extract.py is the model's `ignorePixel`** (the element numbers are the extracted table) -/
theorem ignore_pixel_data_is_model (e : Elem) : Py.ignore_pixel_data e = .ok (ignorePixel e) :=
  Src.ignore_pixel_data_eq e

/-- **`ignore_overlay_data` as written in extract.py is the model's `ignoreOverlay`**, for every 16-bit group number -/
theorem ignore_overlay_data_is_model (e : Elem) (hg : e.group < 65536) : Py.ignore_overlay_data e = .ok (ignoreOverlay e) :=
  Src.ignore_overlay_data_eq e hg

/-- **`ignore_color_lut_data` as written in extract.py is the model's `ignoreLut`** -/
theorem ignore_color_lut_data_is_model (e : Elem) : Py.ignore_color_lut_data e = .ok (ignoreLut e) :=
  Src.ignore_color_lut_data_eq e

/-- the translator translated every function of this group (extract.py: the default ignore rules of MetaExtractor) -/
theorem translator_complete_extract : Gen.codeMissing_extract = [] := rfl

end Source
