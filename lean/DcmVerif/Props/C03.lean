import DcmVerif.Props.Source_dicts
import DcmVerif.Props.Source_insert
import DcmVerif.Props.Source_content
import DcmVerif.Props.Source_insertall
import DcmVerif.Props.Source_values
import DcmVerif.Props.Source_classes
import DcmVerif.Props.Source_simplify
import DcmVerif.Props.Source_shapes
import DcmVerif.Props.Source_wrapmerge
import DcmVerif.Props.C03_wrap
import DcmVerif.Proofs.Total
/-! Property theorems for C03. Statements only; proofs are by reference to `Proofs/`. -/
set_option autoImplicit false

namespace C03
variable {α : Type} [DecidableEq α]

/-- **C03, slice axis, per key:** position `i` of the merged result reads input `i`
    (`null` where the input lacks the key) — any number of inputs, any consistent shape. -/
theorem merge_lookup_slice (null : α) (sh1 : Shp) (hc1 : Consistent sh1)
    (inputs : List (KeyState α)) (hin : ∀ b, b ∈ inputs → ValidK { sh1 with S := 1 } b)
    (r : KeyState α) (h : mergeSliceK null sh1 inputs = .ok r) :
    ∀ i t v, i < inputs.length → t < sh1.T → v < sh1.V →
      lookupKS null { sh1 with S := inputs.length } r i t v =
        lookupKS null { sh1 with S := 1 } (inputs[i]?.getD none) 0 t v :=
  fun i t v hi ht hv => (mergeSlice_den null sh1 hc1 inputs hin h).2 i t v ⟨hi, ht, hv⟩

/-- **C03, time axis (3-D inputs → 4-D), per key:** time point `i` of the result reads input `i`. -/
theorem merge_lookup_time (null : α) (sh1 osh : Shp)
    (hS : 0 < sh1.S) (hsl : sh1.hasSlice = true) (nd4 : sh1.nd = 4) (v1 : sh1.V = 1)
    (hvec : sh1.hasVector = false)
    (ond : osh.nd = 3) (oS : osh.S = sh1.S) (oT : osh.T = 1) (oV : osh.V = 1)
    (ohsl : osh.hasSlice = true)
    (inputs : List (KeyState α)) (hin : ∀ b, b ∈ inputs → ValidK osh b)
    (r : KeyState α) (h : mergeTimeK null sh1 osh inputs = .ok r) :
    ∀ i s, i < inputs.length → s < sh1.S →
      lookupKS null { sh1 with T := inputs.length } r s i 0 =
        lookupKS null osh (inputs[i]?.getD none) s 0 0 :=
  fun i s hi hs =>
    (mergeTime_den null sh1 osh (timeSetup_of hS hsl nd4 v1 ond oS oT oV ohsl) hvec inputs hin h).2
      s i 0 ⟨hs, hi, by rw [v1]; exact Nat.one_pos⟩

/-- **C03, vector axis (3-D / 4-D inputs → 5-D), per key:** component `i` of the result reads
    input `i`. -/
theorem merge_lookup_vector (null : α) (sh1 osh : Shp)
    (hS : 0 < sh1.S) (hT : 0 < sh1.T) (hsl : sh1.hasSlice = true) (nd5 : sh1.nd = 5)
    (hvec : sh1.hasVector = true) (htime : sh1.hasTime = true → sh1.T ≠ 1)
    (ohsl : osh.hasSlice = true) (oS : osh.S = sh1.S) (oT : osh.T = sh1.T) (oV : osh.V = 1)
    (ond : (osh.nd = 3 ∧ sh1.T = 1) ∨ (osh.nd = 4 ∧ sh1.T ≠ 1))
    (inputs : List (KeyState α)) (hin : ∀ b, b ∈ inputs → ValidK osh b)
    (r : KeyState α) (h : mergeVecK null sh1 osh inputs = .ok r) :
    ∀ i s t, i < inputs.length → s < sh1.S → t < sh1.T →
      lookupKS null { sh1 with V := inputs.length } r s t i =
        lookupKS null osh (inputs[i]?.getD none) s t 0 :=
  fun i s t hi hs ht =>
    (mergeVec_den null sh1 osh (vecSetup_of hS hT hsl nd5 ohsl oS oT oV ond) htime inputs hin h).2
      s t i ⟨hs, ht, hi⟩

/-- **C03, non-slice spatial axis, per key:** if every input agrees with the first one at every
    position the key is kept with those values; as soon as one disagrees the key reads `null`
    everywhere (it is dropped, or survives only as a `null` constant). -/
theorem merge_nonslice (null : α) (sh : Shp) (hc : Consistent sh) (rest : List (KeyState α)) :
    ∀ (a acc r : KeyState α), ValidK sh acc → (∀ b, b ∈ rest → ValidK sh b) →
      (Agree null sh acc a ∨ Agree null sh acc none) →
      foldNonSliceK null sh acc rest = .ok r →
      ValidK sh r ∧
      ((Agree null sh acc a ∧ ∀ b, b ∈ rest → Agree null sh a b) → Agree null sh r a) ∧
      ((Agree null sh acc none ∨ ∃ b, b ∈ rest ∧ ¬ Agree null sh a b) → Agree null sh r none ∨
        Agree null sh r a ∧ Agree null sh a none) :=
  _root_.mergeNonSlice_spec null sh hc rest

theorem merge_valid_slice (null : α) (sh1 : Shp) (hc1 : Consistent sh1)
    (inputs : List (KeyState α)) (hin : ∀ b, b ∈ inputs → ValidK { sh1 with S := 1 } b)
    (r : KeyState α) (h : mergeSliceK null sh1 inputs = .ok r) :
    ValidK { sh1 with S := inputs.length } r :=
  (mergeSlice_den null sh1 hc1 inputs hin h).1

theorem merge_valid_time (null : α) (sh1 osh : Shp)
    (hS : 0 < sh1.S) (hsl : sh1.hasSlice = true) (nd4 : sh1.nd = 4) (v1 : sh1.V = 1)
    (hvec : sh1.hasVector = false)
    (ond : osh.nd = 3) (oS : osh.S = sh1.S) (oT : osh.T = 1) (oV : osh.V = 1)
    (ohsl : osh.hasSlice = true)
    (inputs : List (KeyState α)) (hin : ∀ b, b ∈ inputs → ValidK osh b)
    (r : KeyState α) (h : mergeTimeK null sh1 osh inputs = .ok r) :
    ValidK { sh1 with T := inputs.length } r :=
  (mergeTime_den null sh1 osh (timeSetup_of hS hsl nd4 v1 ond oS oT oV ohsl) hvec inputs hin h).1

/-- first loop of `_insert`: the key ends up present, valid, with unchanged lookups -/
theorem reclassify_lossless (null : α) (sh : Shp) (wf : WF sh) (hsl : sh.hasSlice = true)
    (hbase : ∀ d, basePresent sh d = true → d ∈ validClasses sh)
    (self : KeyState α) (hself : ValidK sh self) (oc : Cls) (hoc : oc ∈ validClasses sh)
    (self' : KeyState α) (h : reclassifyK null sh self oc = .ok self') :
    (∃ c lv, self' = some (c, lv)) ∧ ValidK sh self' ∧
    ∀ s t v, s < sh.S → t < sh.T → v < sh.V →
      lookupKS null sh self' s t v = lookupKS null sh self s t v :=
  have := reclassify_den null sh wf hsl hbase (Den.self hself) hoc h
  ⟨this.1, this.2.1, fun s t v hs ht hv => this.2.2 s t v ⟨hs, ht, hv⟩⟩

/-- `_get_changed_class` never changes what a lookup returns, and yields the right count. -/
theorem changed_class_lossless (null : α) (sh : Shp) (wf : WF sh) (hsl : sh.hasSlice = true)
    (ks : KeyState α) (hval : ValidK sh ks) (new : Cls) (hnew : new ∈ validClasses sh)
    (out : List α) (h : getChangedK null sh ks new = .ok out) :
    out.length = mult sh new ∧
    ∀ s t v, s < sh.S → t < sh.T → v < sh.V →
      out[proj sh s t v new]? = lookupKS null sh ks s t v :=
  have := getChanged_tab null sh wf hsl (Den.self hval) (Or.inl hnew) h
  ⟨this.1, fun s t v hs ht hv => this.2 s t v ⟨hs, ht, hv⟩⟩

/-! ### the merges cannot fail in these regions (`Proofs/Key/Merge.lean`, `Proofs/Total.lean`) -/

/-- the loops of `from_sequence` (reclassification and insertion of every input) never raise,
    whatever classes meet -/
theorem insert_loops_total (null : α) (sh1 : Shp) (rest : List (KeyState α)) (k : Nat)
    (acc : KeyState α) : ∃ r, foldSliceK null sh1 k acc rest = .ok r :=
  Total.foldSliceK_ok null sh1 rest k acc

/-- merging valid inputs along the slice axis succeeds (any consistent shape; with the F22 repair
    also when the vector axis has a single component) -/
theorem merge_slice_total (null : α) (sh1 : Shp) (hc1 : Consistent sh1)
    (a : KeyState α) (rest : List (KeyState α))
    (hin : ∀ b, b ∈ a :: rest → ValidK { sh1 with S := 1 } b) :
    ∃ r, mergeSliceK null sh1 (a :: rest) = .ok r :=
  (mergeSlice_run null sh1 hc1 (a :: rest) (List.cons_ne_nil _ _) hin).imp fun _ h => h.1

/-- merging valid 3-D extensions along time succeeds -/
theorem merge_time_total (null : α) (sh1 osh : Shp)
    (hS : 0 < sh1.S) (hsl : sh1.hasSlice = true) (nd4 : sh1.nd = 4) (v1 : sh1.V = 1)
    (hvec : sh1.hasVector = false)
    (ond : osh.nd = 3) (oS : osh.S = sh1.S) (oT : osh.T = 1) (oV : osh.V = 1)
    (ohsl : osh.hasSlice = true)
    (a : KeyState α) (rest : List (KeyState α))
    (hin : ∀ b, b ∈ a :: rest → ValidK osh b) :
    ∃ r, mergeTimeK null sh1 osh (a :: rest) = .ok r :=
  (mergeTime_run null sh1 osh (timeSetup_of hS hsl nd4 v1 ond oS oT oV ohsl) hvec (a :: rest)
    (List.cons_ne_nil _ _) hin).imp fun _ h => h.1

/-- merging valid 3-D / 4-D extensions along the vector axis succeeds -/
theorem merge_vector_total (null : α) (sh1 osh : Shp)
    (hS : 0 < sh1.S) (hT : 0 < sh1.T) (hsl : sh1.hasSlice = true) (nd5 : sh1.nd = 5)
    (hvec : sh1.hasVector = true) (htime : sh1.hasTime = true → sh1.T ≠ 1)
    (ohsl : osh.hasSlice = true) (oS : osh.S = sh1.S) (oT : osh.T = sh1.T) (oV : osh.V = 1)
    (ond : (osh.nd = 3 ∧ sh1.T = 1) ∨ (osh.nd = 4 ∧ sh1.T ≠ 1))
    (a : KeyState α) (rest : List (KeyState α))
    (hin : ∀ b, b ∈ a :: rest → ValidK osh b) :
    ∃ r, mergeVecK null sh1 osh (a :: rest) = .ok r :=
  (mergeVec_run null sh1 osh (vecSetup_of hS hT hsl nd5 ohsl oS oT oV ond) htime (a :: rest)
    (List.cons_ne_nil _ _) hin).imp fun _ h => h.1

end C03
