import DcmVerif.Props.Source_dicts
import DcmVerif.Props.Source_insert
import DcmVerif.Props.Source_values
import DcmVerif.Props.Source_classes
import DcmVerif.Props.Source_simplify
import DcmVerif.Props.Source_shapes
import DcmVerif.Props.Source_lookup
import DcmVerif.Proofs.EndToEnd
import DcmVerif.Props.C01_stack
/-! Property theorems for C01. Statements only; proofs are by reference to `Proofs/`. -/
set_option autoImplicit false

namespace C01
variable {α : Type} [DecidableEq α]

/-- **C01 (metadata, one key, 5-D result):** if the per-volume, per-vector and final merges of
    `to_nifti` succeed, then looking the key up at slice `s`, time `t`, vector `v` returns exactly
    what file `(s,t,v)` carried — `null` if that file lacked the key. -/
theorem convert_lookup_key (null : α) (S T V : Nat) (hS : 0 < S) (hT : 2 ≤ T) (hV : 0 < V)
    (val : Nat → Nat → Nat → Option α)
    (vol : Nat → Nat → KeyState α) (vec : Nat → KeyState α) (r : KeyState α)
    (hvol : ∀ t v, t < T → v < V →
      mergeSliceK null ⟨3, 1, 1, 1, true, false, false⟩
        ((List.range S).map fun s => fileKS (val s t v)) = .ok (vol t v))
    (hvec : ∀ v, v < V →
      mergeTimeK null ⟨4, S, 1, 1, true, true, false⟩ ⟨3, S, 1, 1, true, false, false⟩
        ((List.range T).map fun t => vol t v) = .ok (vec v))
    (hfin : mergeVecK null ⟨5, S, T, 1, true, true, true⟩ ⟨4, S, T, 1, true, true, false⟩
        ((List.range V).map vec) = .ok r) :
    ∀ s t v, s < S → t < T → v < V →
      lookupKS null ⟨5, S, T, V, true, true, true⟩ r s t v = some ((val s t v).getD null) :=
  _root_.convert_lookup_key null S T V hS hT hV val vol vec r hvol hvec hfin

/-- **C01 (metadata, one key, 4-D result):** volumes merged along time. -/
theorem convert_lookup_key_4d (null : α) (S T : Nat) (hS : 0 < S) (hT : 0 < T)
    (val : Nat → Nat → Option α) (vol : Nat → KeyState α) (r : KeyState α)
    (hvol : ∀ t, t < T →
      mergeSliceK null ⟨3, 1, 1, 1, true, false, false⟩
        ((List.range S).map fun s => fileKS (val s t)) = .ok (vol t))
    (hfin : mergeTimeK null ⟨4, S, 1, 1, true, true, false⟩ ⟨3, S, 1, 1, true, false, false⟩
        ((List.range T).map vol) = .ok r) :
    ∀ s t, s < S → t < T →
      lookupKS null ⟨4, S, T, 1, true, true, false⟩ r s t 0 = some ((val s t).getD null) :=
  fun s t hs ht =>
    (Den.of_run (convert_time null S T hS hT vol _ fun t ht =>
      Den.of_run (convert_vol null S hS fun s => val s t) (hvol t ht)) hfin).2 s t 0 ⟨hs, ht, Nat.one_pos⟩

/-- **C01 (metadata, one key, 3-D result):** a single volume. -/
theorem convert_lookup_key_3d (null : α) (S : Nat) (hS : 0 < S) (val : Nat → Option α)
    (r : KeyState α)
    (h : mergeSliceK null ⟨3, 1, 1, 1, true, false, false⟩
        ((List.range S).map fun s => fileKS (val s)) = .ok r) :
    ∀ s, s < S →
      lookupKS null ⟨3, S, 1, 1, true, false, false⟩ r s 0 0 = some ((val s).getD null) :=
  fun s hs => (Den.of_run (convert_vol null S hS val) h).2 s 0 0 ⟨hs, Nat.one_pos, Nat.one_pos⟩

/-- **C06 for conversion (5-D result):** every key of the embedded extension sits at its simplest
    classification. -/
theorem convert_canonical_key (null : α) (S T V : Nat) (hS : 0 < S) (hT : 2 ≤ T) (hV : 2 ≤ V)
    (val : Nat → Nat → Nat → Option α)
    (vol : Nat → Nat → KeyState α) (vec : Nat → KeyState α) (r : KeyState α)
    (hvol : ∀ t v, t < T → v < V →
      mergeSliceK null ⟨3, 1, 1, 1, true, false, false⟩
        ((List.range S).map fun s => fileKS (val s t v)) = .ok (vol t v))
    (hvec : ∀ v, v < V →
      mergeTimeK null ⟨4, S, 1, 1, true, true, false⟩ ⟨3, S, 1, 1, true, false, false⟩
        ((List.range T).map fun t => vol t v) = .ok (vec v))
    (hfin : mergeVecK null ⟨5, S, T, 1, true, true, true⟩ ⟨4, S, T, 1, true, true, false⟩
        ((List.range V).map vec) = .ok r) :
    ∀ c vals, r = some (c, vals) →
      ∀ e, basePresent ⟨5, S, T, V, true, true, true⟩ e = true → rank e < rank c →
        ¬ RepOK ⟨5, S, T, V, true, true, true⟩
            (fun s t v => lookupKS null ⟨5, S, T, V, true, true, true⟩ r s t v) e :=
  _root_.convert_canonical_key null S T V hS hT hV val vol vec r hvol hvec hfin

/-- **C01 without the premise (5-D result):** for every assignment of values (or absence) to the
    files of a complete S × T × V stack (T, V ≥ 2) all three levels of merging succeed and the
    summary returns at every position exactly what that file carried. -/
theorem convert_total (null : α) (S T V : Nat) (hS : 0 < S) (hT : 2 ≤ T) (hV : 2 ≤ V)
    (val : Nat → Nat → Nat → Option α) :
    ∃ (vol : Nat → Nat → KeyState α) (vec : Nat → KeyState α) (r : KeyState α),
      (∀ t v, t < T → v < V →
        mergeSliceK null ⟨3, 1, 1, 1, true, false, false⟩
          ((List.range S).map fun s => fileKS (val s t v)) = .ok (vol t v)) ∧
      (∀ v, v < V →
        mergeTimeK null ⟨4, S, 1, 1, true, true, false⟩ ⟨3, S, 1, 1, true, false, false⟩
          ((List.range T).map fun t => vol t v) = .ok (vec v)) ∧
      mergeVecK null ⟨5, S, T, 1, true, true, true⟩ ⟨4, S, T, 1, true, true, false⟩
          ((List.range V).map vec) = .ok r ∧
      ∀ s t v, s < S → t < T → v < V →
        lookupKS null ⟨5, S, T, V, true, true, true⟩ r s t v = some ((val s t v).getD null) :=
  Total.convert_total null S T V hS hT hV val

/-- **C01 without the premise (4-D result)** -/
theorem convert_total_4d (null : α) (S T : Nat) (hS : 0 < S) (hT : 2 ≤ T)
    (val : Nat → Nat → Option α) :
    ∃ (vol : Nat → KeyState α) (r : KeyState α),
      (∀ t, t < T →
        mergeSliceK null ⟨3, 1, 1, 1, true, false, false⟩
          ((List.range S).map fun s => fileKS (val s t)) = .ok (vol t)) ∧
      mergeTimeK null ⟨4, S, 1, 1, true, true, false⟩ ⟨3, S, 1, 1, true, false, false⟩
          ((List.range T).map vol) = .ok r ∧
      ∀ s t, s < S → t < T →
        lookupKS null ⟨4, S, T, 1, true, true, false⟩ r s t 0 = some ((val s t).getD null) :=
  Total.convert_total_4d null S T hS hT val

/-- **C01 without the premise (3-D result)** -/
theorem convert_total_3d (null : α) (S : Nat) (hS : 0 < S) (val : Nat → Option α) :
    ∃ r : KeyState α,
      mergeSliceK null ⟨3, 1, 1, 1, true, false, false⟩
        ((List.range S).map fun s => fileKS (val s)) = .ok r ∧
      ∀ s, s < S →
        lookupKS null ⟨3, S, 1, 1, true, false, false⟩ r s 0 0 = some ((val s).getD null) :=
  Total.convert_total_3d null S hS val

/-- **C01 without the premise (5-D result with a single time point, shape (x,y,z,1,V)):** the
    volumes are merged directly along the vector axis -/
theorem convert_total_5d_t1 (null : α) (S V : Nat) (hS : 0 < S) (hV : 0 < V)
    (val : Nat → Nat → Option α) :
    ∃ (vol : Nat → KeyState α) (r : KeyState α),
      (∀ v, v < V →
        mergeSliceK null ⟨3, 1, 1, 1, true, false, false⟩
          ((List.range S).map fun s => fileKS (val s v)) = .ok (vol v)) ∧
      mergeVecK null ⟨5, S, 1, 1, true, false, true⟩ ⟨3, S, 1, 1, true, false, false⟩
          ((List.range V).map vol) = .ok r ∧
      ∀ s v, s < S → v < V →
        lookupKS null ⟨5, S, 1, V, true, false, true⟩ r s 0 v = some ((val s v).getD null) :=
  Total.convert_total_5d_t1 null S V hS hV val

/-- **C01, end to end (stack model ∘ per-key merges):** the files of a complete grid, added in any
    order, each carrying a value (or not) for a key; `to_nifti` sorts them, reverses every volume's
    files when the voxel order flips the slice axis, and merges volume by volume, along time, along
    the vector axis.  All of that succeeds and the summary returns at output slice `k`, time `t`,
    vector `v` the value of the file whose pixels are there: canonical slice `k`, or `S − 1 − k`
    when flipped. -/
theorem convert_end_to_end (null : α) (idOf : Int → Int → Int → Nat) (vs ts ps : List Int)
    (hv : vs.Pairwise (· < ·)) (ht : ts.Pairwise (· < ·)) (hp : ps.Pairwise (· < ·))
    (hS : 0 < ps.length) (hT : 2 ≤ ts.length) (hV : 2 ≤ vs.length)
    (files : List Stk.F) (hperm : files.Perm (Stk.grid idOf vs ts ps))
    (metaOf : Nat → Option α) (flip : Bool) :
    let S := ps.length
    let T := ts.length
    let V := vs.length
    let canon := Stk.chkSort S (V * T) files
    let order := if flip then Stk.reverseBlocks S (T * V) canon else canon
    let valAt := fun s t v => (order[(t + T * v) * S + s]?).bind fun f => metaOf f.id
    ∃ (vol : Nat → Nat → KeyState α) (vec : Nat → KeyState α) (r : KeyState α),
      (∀ t v, t < T → v < V →
        mergeSliceK null ⟨3, 1, 1, 1, true, false, false⟩
          ((List.range S).map fun s => fileKS (valAt s t v)) = .ok (vol t v)) ∧
      (∀ v, v < V →
        mergeTimeK null ⟨4, S, 1, 1, true, true, false⟩ ⟨3, S, 1, 1, true, false, false⟩
          ((List.range T).map fun t => vol t v) = .ok (vec v)) ∧
      mergeVecK null ⟨5, S, T, 1, true, true, true⟩ ⟨4, S, T, 1, true, true, false⟩
          ((List.range V).map vec) = .ok r ∧
      ∀ k t v, k < S → t < T → v < V →
        lookupKS null ⟨5, S, T, V, true, true, true⟩ r k t v =
          some ((metaOf (idOf (vs.getD v 0) (ts.getD t 0)
                  (ps.getD (if flip then S - 1 - k else k) 0))).getD null) :=
  Total.convert_end_to_end null idOf vs ts ps hv ht hp hS hT hV files hperm metaOf flip

end C01

/-! ### non-vacuity -/
namespace C01nv
def getOk {ε β : Type} [Inhabited β] : Except ε β → β | .ok b => b | _ => default
def val (s t v : Nat) : Option Nat := if (s + t + v) % 3 = 0 then none else some (s % 2 + 10 * t + 100 * (v % 2))
def vol (t v : Nat) : KeyState Nat := getOk (mergeSliceK 0 ⟨3, 1, 1, 1, true, false, false⟩ ((List.range 3).map fun s => fileKS (val s t v)))
def vec (v : Nat) : KeyState Nat := getOk (mergeTimeK 0 ⟨4, 3, 1, 1, true, true, false⟩ ⟨3, 3, 1, 1, true, false, false⟩ ((List.range 2).map fun t => vol t v))
def r : KeyState Nat := getOk (mergeVecK 0 ⟨5, 3, 2, 1, true, true, true⟩ ⟨4, 3, 2, 1, true, true, false⟩ ((List.range 3).map vec))

/-- non-vacuity of `C01.convert_lookup_key`: a 3×2×3 series in which a third of the files lack the
    key meets every hypothesis (all three levels of merging succeed) -/
example :
    (∀ t v, t < 2 → v < 3 →
      mergeSliceK 0 ⟨3, 1, 1, 1, true, false, false⟩ ((List.range 3).map fun s => fileKS (val s t v)) = .ok (vol t v)) ∧
    (∀ v, v < 3 →
      mergeTimeK 0 ⟨4, 3, 1, 1, true, true, false⟩ ⟨3, 3, 1, 1, true, false, false⟩ ((List.range 2).map fun t => vol t v) = .ok (vec v)) ∧
    mergeVecK 0 ⟨5, 3, 2, 1, true, true, true⟩ ⟨4, 3, 2, 1, true, true, false⟩ ((List.range 3).map vec) = .ok r := by
  -- `vol`, `vec`, `r` are what the runs return: it is enough that each run succeeds
  have ok {x : Except Err (KeyState Nat)} (h : x.isOk = true) : x = .ok (getOk x) := by
    cases x with
    | ok _ => rfl
    | error _ => cases h
  refine ⟨?_, ?_, ok (by decide +kernel)⟩
  · intro t v ht hv
    have h1 : t = 0 ∨ t = 1 := by omega
    have h2 : v = 0 ∨ v = 1 ∨ v = 2 := by omega
    rcases h1 with rfl | rfl <;> rcases h2 with rfl | rfl | rfl <;> exact ok (by decide +kernel)
  · intro v hv
    have h2 : v = 0 ∨ v = 1 ∨ v = 2 := by omega
    rcases h2 with rfl | rfl | rfl <;> exact ok (by decide +kernel)
end C01nv
