import DcmVerif.Proofs.Code_filter
/-! The tie by proof (dcmstack.py: make_key_regex_filter and its inner function): functions translated from the Python source on every run
(`tools/gen_code.py` → `Generated/Code_filter.lean`) are the model functions the property theorems speak about.
Statements only; proofs are by reference to `Proofs/Code_filter.lean`. One file per function group, so that an edit
of one function only unsettles the properties that depend on it. -/
set_option autoImplicit false

namespace Source
variable {α κ : Type}
variable {ρ : Type}

/-- **the filter `make_key_regex_filter` builds, as written in dcmstack.py, is the model's `regexFilter`** for every pair of
    pattern lists, the empty ones included (an empty exclude list removes nothing — the repair of F36 —, an empty or absent include
    list rescues nothing): a key is dropped iff some exclude pattern matches it and no force-include pattern does -/
theorem key_regex_filter_is_model (mtch : ρ → κ → Bool) (excl incl : List ρ) (key : κ) :
    Py.key_regex_filter mtch excl incl key = .ok (regexFilter mtch excl incl key) :=
  Src.key_regex_filter_eq mtch excl incl key

/-- the translator translated every function of this group (dcmstack.py: make_key_regex_filter and its inner function) -/
theorem translator_complete_filter : Gen.codeMissing_filter = [] := rfl

end Source
