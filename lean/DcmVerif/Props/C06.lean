import DcmVerif.Props.Source_classes
import DcmVerif.Props.Source_simplify
import DcmVerif.Proofs.Key
/-! Property theorems for C06. Statements only; proofs are by reference to `Proofs/`. -/
set_option autoImplicit false
open Cls

namespace C06
variable {α : Type} [DecidableEq α]

theorem simplify_lookup (null : α) (sh : Shp) (wf : WF sh) (c : Cls) (vals : List α)
    (hsl : sh.hasSlice = true) (hlen : vals.length = mult sh c) (d : Cls) (out : List α)
    (h : simplifyK null sh c vals = .ok (.moved d out))
    (hbug : ¬ (c = vslices ∧ d = tsamples ∧ 1 < sh.V))
    (s t v : Nat) (hs : s < sh.S) (ht : t < sh.T) (hv : v < sh.V) :
    lookupK sh d out s t v = lookupK sh c vals s t v :=
  _root_.simplify_lookup null sh wf c vals hsl hlen d out h hbug s t v hs ht hv

/-- `_simplify` stores the right number of values under a class that is valid for the shape -/
theorem simplify_valid (null : α) (sh : Shp) (wf : WF sh) (hsl : sh.hasSlice = true)
    (hbase : ∀ d, basePresent sh d = true → d ∈ validClasses sh)
    (c : Cls) (vals : List α) (hlen : vals.length = mult sh c) (d : Cls) (out : List α)
    (h : simplifyK null sh c vals = .ok (.moved d out))
    (hbug : ¬ (c = vslices ∧ d = tsamples ∧ 1 < sh.V)) :
    d ∈ validClasses sh ∧ out.length = mult sh d :=
  _root_.simplify_valid null sh wf hsl hbase c vals hlen d out h hbug

/-- **Minimality of `_simplify` from global slices (C06):** whatever class the key ends in, no
    class that comes earlier in the preference order (and whose dictionary exists) can represent
    the key's values. -/
theorem simplify_gslices_minimal (null : α) (sh : Shp) (wf : WF sh) (hsl : sh.hasSlice = true)
    (vals : List α) (hlen : vals.length = mult sh gslices) (o : SimpOut α)
    (h : simplifyK null sh gslices vals = .ok o) :
    ∀ e, basePresent sh e = true → rank e < rank (resultClass o) →
      ¬ RepOK sh (fun s t v => vals[proj sh s t v gslices]?) e :=
  _root_.simplify_gslices_minimal null sh wf hsl vals hlen o h

/-- **C06 for slice merges:** with at least two inputs, none of which stores the key per slice
    (true of every canonical single-slice input), the merged key sits in a class that no class
    earlier in the preference order (with an existing dictionary) can replace. -/
theorem merge_slice_minimal (null : α) (sh1 : Shp) (hc1 : Consistent sh1)
    (inputs : List (KeyState α)) (h2 : 2 ≤ inputs.length)
    (hin : ∀ b, b ∈ inputs → ValidK { sh1 with S := 1 } b ∧ nonSliceClass b)
    (r : KeyState α) (h : mergeSliceK null sh1 inputs = .ok r) :
    ∀ c vals, r = some (c, vals) →
      ∀ e, basePresent { sh1 with S := inputs.length } e = true → rank e < rank c →
        ¬ RepOK { sh1 with S := inputs.length }
            (fun s t v => lookupKS null { sh1 with S := inputs.length } r s t v) e :=
  mergeSlice_minimal null sh1 hc1 inputs h2 hin h

/-- **C06 for time merges (3-D inputs → 4-D):** the merged key sits in a class that no earlier
    class with an existing dictionary can replace — for *any* valid inputs. -/
theorem merge_time_minimal (null : α) (sh1 osh : Shp)
    (hS : 0 < sh1.S) (hsl : sh1.hasSlice = true) (nd4 : sh1.nd = 4) (v1 : sh1.V = 1)
    (hvec : sh1.hasVector = false)
    (ond : osh.nd = 3) (oS : osh.S = sh1.S) (oT : osh.T = 1) (oV : osh.V = 1)
    (ohsl : osh.hasSlice = true)
    (inputs : List (KeyState α)) (hin : ∀ b, b ∈ inputs → ValidK osh b)
    (r : KeyState α) (h : mergeTimeK null sh1 osh inputs = .ok r) :
    ∀ c vals, r = some (c, vals) →
      ∀ e, basePresent { sh1 with T := inputs.length } e = true → rank e < rank c →
        ¬ RepOK { sh1 with T := inputs.length }
            (fun s t v => lookupKS null { sh1 with T := inputs.length } r s t v) e :=
  mergeTime_minimal null sh1 osh (timeSetup_of hS hsl nd4 v1 ond oS oT oV ohsl) hvec inputs hin h

/-- **C06 for vector merges (3-D / 4-D inputs → 5-D):** with at least two inputs the merged key
    sits in a class that no earlier class with an existing dictionary can replace. -/
theorem merge_vector_minimal (null : α) (sh1 osh : Shp)
    (hS : 0 < sh1.S) (hT : 0 < sh1.T) (hsl : sh1.hasSlice = true) (nd5 : sh1.nd = 5)
    (hvec : sh1.hasVector = true) (htime : sh1.hasTime = true → sh1.T ≠ 1)
    (ohsl : osh.hasSlice = true) (oS : osh.S = sh1.S) (oT : osh.T = sh1.T) (oV : osh.V = 1)
    (ond : (osh.nd = 3 ∧ sh1.T = 1) ∨ (osh.nd = 4 ∧ sh1.T ≠ 1))
    (inputs : List (KeyState α)) (h2 : 2 ≤ inputs.length) (hin : ∀ b, b ∈ inputs → ValidK osh b)
    (r : KeyState α) (h : mergeVecK null sh1 osh inputs = .ok r) :
    ∀ c vals, r = some (c, vals) →
      ∀ e, basePresent { sh1 with V := inputs.length } e = true → rank e < rank c →
        ¬ RepOK { sh1 with V := inputs.length }
            (fun s t v => lookupKS null { sh1 with V := inputs.length } r s t v) e :=
  mergeVec_minimal null sh1 osh (vecSetup_of hS hT hsl nd5 ohsl oS oT oV ond) htime inputs h2 hin h

/-- **C06 for conversion (5-D result):** every key of the embedded extension sits at its simplest
    classification. -/
theorem convert_canonical (null : α) (S T V : Nat) (hS : 0 < S) (hT : 2 ≤ T) (hV : 2 ≤ V)
    (val : Nat → Nat → Nat → Option α)
    (vol : Nat → Nat → KeyState α) (vec : Nat → KeyState α) (r : KeyState α)
    (hvol : ∀ t v, t < T → v < V →
      mergeSliceK null ⟨3, 1, 1, 1, true, false, false⟩
        ((List.range S).map fun s => fileKS (val s t v)) = .ok (vol t v))
    (hvec : ∀ v, v < V →
      mergeTimeK null ⟨4, S, 1, 1, true, true, false⟩ ⟨3, S, 1, 1, true, false, false⟩
        ((List.range T).map fun t => vol t v) = .ok (vec v))
    (hfin : mergeVecK null ⟨5, S, T, 1, true, true, true⟩ ⟨4, S, T, 1, true, true, false⟩
        ((List.range V).map vec) = .ok r) :
    ∀ c vals, r = some (c, vals) →
      ∀ e, basePresent ⟨5, S, T, V, true, true, true⟩ e = true → rank e < rank c →
        ¬ RepOK ⟨5, S, T, V, true, true, true⟩
            (fun s t v => lookupKS null ⟨5, S, T, V, true, true, true⟩ r s t v) e :=
  _root_.convert_canonical_key null S T V hS hT hV val vol vec r hvol hvec hfin

end C06
