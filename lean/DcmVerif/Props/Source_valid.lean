import DcmVerif.Proofs.Code_valid
/-! The tie by proof (dcmmeta.py: DcmMetaExtension.check_valid): functions translated from the Python source on every run
(`tools/gen_code.py` → `Generated/Code_valid.lean`) are the model functions the property theorems speak about.
Statements only; proofs are by reference to `Proofs/Code_valid.lean`. One file per function group, so that an edit
of one function only unsettles the properties that depend on it. -/
set_option autoImplicit false

namespace Source

/-- **`check_valid` as written in dcmmeta.py is the model's `checkValid`** over the abstraction
    `CV.Content` of the content dictionary: it returns iff the model accepts and raises
    InvalidExtensionError otherwise -/
theorem check_valid_is_model (c : CV.Content) :
    Py.check_valid c = if CV.checkValid c then .ok () else .error PyErr.invalidExtension :=
  Src.check_valid_eq c

/-- the translator translated every function of this group (dcmmeta.py: DcmMetaExtension.check_valid) -/
theorem translator_complete_valid : Gen.codeMissing_valid = [] := rfl

end Source
