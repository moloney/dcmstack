import DcmVerif.Proofs.Code_shapes
/-! The tie by proof (dcmmeta.py: result shapes of get_subset / from_sequence): functions translated from the Python source on every run
(`tools/gen_code.py` → `Generated/Code_shapes.lean`) are the model functions the property theorems speak about.
Statements only; proofs are by reference to `Proofs/Code_shapes.lean`. One file per function group, so that an edit
of one function only unsettles the properties that depend on it. -/
set_option autoImplicit false

namespace Source

/-- **the result shape computed by `get_subset` as written in dcmmeta.py is the model's `subsetShape`**
    (split axis singular, trailing singular axes beyond the third removed) for every shape and axis; the
    bounded rendering of the `while` loop never runs out of rounds -/
theorem subset_shape_is_model (shape : List Nat) (dim : Nat) :
    Py.subset_shape shape dim = .ok (DExt.subsetShape shape dim) :=
  Src.subset_shape_eq shape dim

theorem merge_shape_is_model {κ α : Type} (first : DExt κ α) (dim n : Nat) :
    Py.merge_shape first.shape dim n = .ok (DExt.outShapeOf first dim n) :=
  Src.merge_shape_eq first dim n

/-- the translator translated every function of this group (dcmmeta.py: result shapes of get_subset / from_sequence) -/
theorem translator_complete_shapes : Gen.codeMissing_shapes = [] := rfl

end Source
