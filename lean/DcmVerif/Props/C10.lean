import DcmVerif.Props.Source_classes
import DcmVerif.Props.Source_valid
import DcmVerif.Model.Valid
/-! C10: the validity check accepts exactly the contents that meet the format rules.
The full-strength iff is false of the code (finding F6: the value count is not checked for a varying
classification of multiplicity 1); it is kept visible, refuted by a concrete witness, and the
`_partial` theorem states exactly what the check decides. -/
set_option autoImplicit false
open Cls

namespace C10
open CV

theorem classOk_iff_partial (c : Content) (cls : Cls) :
    classOk c cls = true ↔ RulesClassPartial c cls := by
  unfold classOk RulesClassPartial
  cases hd : c.dict cls with
  | none => simp
  | some d =>
    simp only [Option.some.injEq, exists_eq_left']
    by_cases h0 : mult c.shp cls = 0
    · simp [h0, List.isEmpty_iff]
    · by_cases h1 : 1 < mult c.shp cls
      · simp [h0, h1, List.all_eq_true]
      · simp [h0, h1]

theorem uniqueOk_iff (c : Content) : uniqueOk c = true ↔ Unique c := by
  unfold uniqueOk Unique
  simp only [List.all_eq_true, Bool.or_eq_true, beq_iff_eq, Bool.not_eq_true', List.contains_eq_mem,
    decide_eq_false_iff_not]
  exact forall₂_congr fun a _ => forall₂_congr fun b _ => Decidable.or_iff_not_imp_left

/-- **C10 (what the check decides):** `check_valid` accepts a content iff it meets the rules, the
    count rule being imposed only on classifications of multiplicity > 1. -/
theorem checkValid_iff_rules_partial (c : Content) :
    checkValid c = true ↔ RulesPartial c := by
  unfold checkValid RulesPartial
  simp only [Bool.and_eq_true, List.all_eq_true, classOk_iff_partial, uniqueOk_iff, and_assoc]

/-- the count rule of a classification in full strength gives the one the check imposes -/
theorem rulesClass_partial (c : Content) (cls : Cls) (h : RulesClass c cls) :
    RulesClassPartial c cls := by
  obtain ⟨d, hd, h0, hcount⟩ := h
  refine ⟨d, hd, h0, fun hm => hcount ?_ (by omega)⟩
  rintro rfl
  simp [mult] at hm

/-- the two agree on a classification unless it varies with multiplicity 1 -/
theorem rulesClass_of_partial (c : Content) (cls : Cls) (hno : cls ≠ gconst → mult c.shp cls ≠ 1)
    (h : RulesClassPartial c cls) : RulesClass c cls := by
  obtain ⟨d, hd, h0, hcount⟩ := h
  exact ⟨d, hd, h0, fun hne hm0 => hcount (by have := hno hne; omega)⟩

/-- the full rules imply the partial ones: every content the rules accept is accepted -/
theorem rules_accepted (c : Content) (h : Rules c) : checkValid c = true :=
  (checkValid_iff_rules_partial c).mpr
    ⟨h.1, h.2.1, fun cls hc => rulesClass_partial c cls (h.2.2.1 cls hc), h.2.2.2⟩

/-- **every corruption that breaks a (partial) rule is rejected**, whatever else was changed -/
theorem corruption_rejected (c : Content) (h : ¬ RulesPartial c) : checkValid c = false :=
  Bool.eq_false_iff.mpr fun hv => h ((checkValid_iff_rules_partial c).mp hv)

/-- a valid classification whose dictionary breaks the rule of its class is rejected -/
theorem reject_class (c : Content) (cls : Cls) (hc : cls ∈ validClasses c.shp)
    (h : ¬ RulesClassPartial c cls) : checkValid c = false :=
  corruption_rejected c fun hr => h (hr.2.2.1 cls hc)

/-- rejected for each rule separately -/
theorem reject_missing_required (c : Content) (h : requiredOk c = false) : checkValid c = false := by
  simp [checkValid, h]
theorem reject_bad_geometry (c : Content) (h : geometryOk c = false) : checkValid c = false := by
  simp [checkValid, h]
theorem reject_missing_class_dict (c : Content) (cls : Cls) (hc : cls ∈ validClasses c.shp)
    (h : c.dict cls = none) : checkValid c = false :=
  reject_class c cls hc fun ⟨d, hd, _⟩ => by rw [h] at hd; cases hd
theorem reject_wrong_count (c : Content) (cls : Cls) (hc : cls ∈ validClasses c.shp)
    (d : List (String × EShape)) (hd : c.dict cls = some d) (hm : 1 < mult c.shp cls)
    (k : String) (sh : EShape) (hk : (k, sh) ∈ d) (hsh : sh ≠ .sized (mult c.shp cls)) :
    checkValid c = false :=
  reject_class c cls hc fun ⟨d', hd', _, hcount⟩ => by
    cases hd.symm.trans hd'
    exact hsh (hcount hm k sh hk)
theorem reject_slice_meta_without_slice_dim (c : Content) (cls : Cls) (hc : cls ∈ validClasses c.shp)
    (d : List (String × EShape)) (hd : c.dict cls = some d) (hm : mult c.shp cls = 0) (hne : d ≠ []) :
    checkValid c = false :=
  reject_class c cls hc fun ⟨d', hd', h0, _⟩ => by
    cases hd.symm.trans hd'
    exact hne (h0 hm)
theorem reject_duplicate_key (c : Content) (a b : Cls) (ha : a ∈ validClasses c.shp)
    (hb : b ∈ validClasses c.shp) (hab : a ≠ b) (k : String) (hka : k ∈ keysOf c a)
    (hkb : k ∈ keysOf c b) : checkValid c = false :=
  corruption_rejected c fun hr => hr.2.2.2 a ha b hb hab k hka hkb

/-- the full-strength statement of the property -/
def checkValid_iff_rules_full : Prop := ∀ c, checkValid c = true ↔ Rules c

/-- F6: a one-slice 4-D extension whose time-slices key holds four values is accepted although
    the full-strength rules reject it -/
def f6 : Content :=
  { topKeys := ["dcmmeta_affine", "dcmmeta_reorient_transform", "dcmmeta_slice_dim",
                "dcmmeta_shape", "dcmmeta_version", "global", "time"]
    version := some "0.6", affineRows := [4, 4, 4, 4], sliceDim := some 2,
    shape := [2, 2, 1, 3],
    dict := fun cls => match cls with
      | tslices => some [("K", .sized 4)]
      | gconst | gslices | tsamples => some []
      | _ => none }

theorem f6_accepted : checkValid f6 = true := by decide +kernel
theorem f6_breaks_rules : ¬ Rules f6 := by
  rintro ⟨_, _, hcls, _⟩
  obtain ⟨d, hd, _, hcount⟩ := hcls tslices (by decide)
  cases hd
  -- the multiplicity of `tslices` is 1, the key holds four values
  exact absurd (hcount (by decide) (by decide) "K" (.sized 4) (by simp)) (by decide)
/-- the full-strength iff is false of `check_valid` as it stands (finding F6) -/
theorem checkValid_not_iff_rules_full : ¬ checkValid_iff_rules_full :=
  fun h => f6_breaks_rules ((h f6).mp f6_accepted)

/-- outside multiplicity-1 varying classes the full iff holds -/
theorem checkValid_iff_rules_of_no_unit_class (c : Content)
    (hno : ∀ cls ∈ validClasses c.shp, cls ≠ gconst → mult c.shp cls ≠ 1) :
    checkValid c = true ↔ Rules c := by
  refine ⟨fun h => ?_, rules_accepted c⟩
  obtain ⟨h1, h2, h3, h4⟩ := (checkValid_iff_rules_partial c).mp h
  exact ⟨h1, h2, fun cls hc => rulesClass_of_partial c cls (hno cls hc) (h3 cls hc), h4⟩

/-- non-vacuity: a valid 5-D content with keys in three classifications meets the full rules -/
def good : Content :=
  { topKeys := ["dcmmeta_affine", "dcmmeta_reorient_transform", "dcmmeta_slice_dim",
                "dcmmeta_shape", "dcmmeta_version", "global", "time", "vector"]
    version := some "0.6", affineRows := [4, 4, 4, 4], sliceDim := some 2,
    shape := [2, 2, 3, 2, 2],
    dict := fun cls => match cls with
      | gconst => some [("A", .scalar)]
      | tslices => some [("K", .sized 3)]
      | vsamples => some [("V", .sized 2)]
      | _ => some [] }
example : checkValid good = true := by decide +kernel
example : ∀ cls ∈ validClasses good.shp, cls ≠ gconst → mult good.shp cls ≠ 1 := by decide

end C10
