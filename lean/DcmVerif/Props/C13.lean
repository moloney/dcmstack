import DcmVerif.Props.Source_classes
import DcmVerif.Props.Source_simplify
import DcmVerif.Props.Source_shapes
import DcmVerif.Props.Source_dicts
import DcmVerif.Props.Source_values
import DcmVerif.Props.Source_insert
import DcmVerif.Props.Source_content
import DcmVerif.Props.Source_insertall
import DcmVerif.Proofs.Key
import DcmVerif.Props.C13_ext
/-! Property theorems for C13. Statements only; proofs are by reference to `Proofs/`. -/
set_option autoImplicit false

namespace C13
variable {α : Type} [DecidableEq α] {κ : Type} [DecidableEq κ]

/-- frame: writing key `k` does not change what any other key reads -/
theorem putKey_other (e : Ext κ α) (k k' : κ) (ks : KeyState α) (hne : k' ≠ k) :
    (e.putKey k ks).key k' = e.key k' :=
  _root_.Ext.key_putKey_other e k k' ks hne

/-- writing a key state in a valid class and reading it back -/
theorem putKey_self (e : Ext κ α) (k : κ) (ks : KeyState α)
    (hv : ∀ c v, ks = some (c, v) → c ∈ validClasses e.sh) :
    (e.putKey k ks).key k = ks :=
  _root_.Ext.key_putKey_self e k ks hv

/-- **Keys are independent (C13):** running a per-key update over a duplicate-free list of keys
    changes exactly those keys, each by its own update applied to its own old state. -/
theorem foldl_putKey_key (f : κ → KeyState α → KeyState α) (ks : List κ) (hnd : ks.Nodup) :
    ∀ (e : Ext κ α),
      (∀ k st c v, f k st = some (c, v) → c ∈ validClasses e.sh) →
      ∀ k, ((ks.foldl (fun e k => e.putKey k (f k (e.key k))) e).key k)
        = if k ∈ ks then f k (e.key k) else e.key k :=
  _root_.Ext.foldl_putKey_key f ks hnd

/-- **C13 for merges:** what the result says about a key depends only on that key's entries in
    the two inputs (and on the shape), not on any other key. -/
theorem insertWith_key (step : KeyState α → KeyState α → KeyState α) (self other : Ext κ α)
    (hstep : ∀ a b c v, step a b = some (c, v) → c ∈ validClasses self.sh) (k : κ) :
    (Ext.insertWith step self other).key k =
      if k ∈ (other.keys ++ self.keys).eraseDups then step (self.key k) (other.key k)
      else self.key k :=
  _root_.Ext.insertWith_key step self other hstep k

/-- **C14:** the filter removes exactly the keys it is told to — whatever their classification —
    and leaves every other key as it was. -/
theorem filterMeta_key (e : Ext κ α) (drop : κ → Bool) (k : κ) :
    (e.filterMeta drop).key k = if drop k then none else e.key k :=
  _root_.Ext.key_filterMeta e drop k

end C13
