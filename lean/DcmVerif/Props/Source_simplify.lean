import DcmVerif.Proofs.Code_simplify
/-! The tie by proof (dcmmeta.py: _simplify, _get_const_period, is_constant, is_repeating): functions translated from the Python source on every run
(`tools/gen_code.py` → `Generated/Code_simplify.lean`) are the model functions the property theorems speak about.
Statements only; proofs are by reference to `Proofs/Code_simplify.lean`. One file per function group, so that an edit
of one function only unsettles the properties that depend on it. -/
set_option autoImplicit false

namespace Source
variable {α κ : Type}
open Src

/-- **`is_constant` as written in dcmmeta.py is the model's `pyIsConstant`** (guards and result), for
    every list and period -/
theorem is_constant_is_model [DecidableEq α] (l : List α) (p : Option Nat) :
    Py.is_constant l p = errOf (pyIsConstant l p) :=
  Src.is_constant_eq l p

/-- **`is_repeating` as written in dcmmeta.py is the model's `pyIsRepeating`** -/
theorem is_repeating_is_model [DecidableEq α] (l : List α) (p : Nat) :
    Py.is_repeating l p = errOf (pyIsRepeating l p) :=
  Src.is_repeating_eq l p

/-- **`_get_const_period` as written in dcmmeta.py is the model's `constPeriod`** on every entry of
    the `_const_tests` table whose classes are valid for the shape -/
theorem get_const_period_is_model (e : DExt κ α) (h3 : 3 ≤ e.shape.length) (h5 : e.shape.length ≤ 5)
    (hsl : e.sliceDim.isSome = true) (src dest : Cls) (hs : src ∈ validClasses e.shp)
    (hd : dest ∈ validClasses e.shp) (htab : dest ∈ constTests src) :
    Py.get_const_period e.shape (e.sliceDim.map fun d => e.shape.getD d 1) src dest =
      .ok (constPeriod e.shp src dest) :=
  Src.get_const_period_eq e h3 h5 hsl src dest hs hd htab

/-- **`_simplify` as written in dcmmeta.py is the model's `simplifyK`** for one key of an extension with three to five axes and a
    slice dimension whose base dictionaries are the ones valid for its shape: the same Boolean, the same single write (class and
    values) followed by the deletion from the old class — or only the deletion of a constant `None` — and `ValueError` exactly when
    the model's list tests reject their arguments -/
theorem simplify_is_model [DecidableEq α] (null : α) (e : DExt κ α) (h3 : 3 ≤ e.shape.length) (h5 : e.shape.length ≤ 5)
    (hsl : e.sliceDim.isSome = true) (hbase : ∀ d, basePresent e.shp d = true → d ∈ validClasses e.shp)
    (c : Cls) (hc : c ∈ validClasses e.shp) (vals : List α) :
    Py.simplify null e.shape (e.sliceDim.map fun d => e.shape.getD d 1) (contentOf e) vals c =
      errOf ((simplifyK null e.shp c vals).map (fxOf c)) :=
  Src.simplify_eq null e h3 h5 hsl hbase c hc vals

/-- the translator translated every function of this group (dcmmeta.py: _simplify, _get_const_period, is_constant, is_repeating) -/
theorem translator_complete_simplify : Gen.codeMissing_simplify = [] := rfl

end Source
