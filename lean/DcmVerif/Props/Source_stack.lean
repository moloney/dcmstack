import DcmVerif.Proofs.Code_stack
/-! The tie by proof (dcmstack.py: DicomStack.get_shape / _chk_order): functions translated from the Python source on every run
(`tools/gen_code.py` → `Generated/Code_stack.lean`) are the model functions the property theorems speak about.
Statements only; proofs are by reference to `Proofs/Code_stack.lean`. One file per function group, so that an edit
of one function only unsettles the properties that depend on it. -/
set_option autoImplicit false

namespace Source
open Src Stk

/-- **the count checks of `get_shape` as written in dcmstack.py are the count conjuncts of the model's
    acceptance test**, and the dimensions they derive are the model's `dimS`, `dimT`, `dimV` -/
theorem get_shape_counts_is_model (n s v : Nat) (sp : Bool) :
    Py.get_shape_counts n s v sp =
      if countsOk n s v sp then .ok (s, n / s / v, v) else .error PyErr.invalidStack :=
  Src.get_shape_counts_eq n s v sp

/-- the model's acceptance test is those count conjuncts and the two order checks of `_chk_order` -/
theorem accept_is_counts_and_order (spacingOk : List Int → Bool) (files : List F) :
    acceptB spacingOk files =
      (countsOk files.length (dimS files) (dimV files) (spacingOk (distinctSorted (files.map (·.p)))) &&
       (chunks (dimT files * dimS files) (dimV files)
          (chkSort (dimS files) (files.length / dimS files) files)).all allSameV &&
       (chunks (dimS files) (files.length / dimS files)
          (chkSort (dimS files) (files.length / dimS files) files)).all
        (fun b => b.map (·.p) == distinctSorted (files.map (·.p)))) :=
  Src.acceptB_counts spacingOk files

/-- **the thorough check of `_chk_order` as written in dcmstack.py passes iff every cell of the grid
    holds the right file**: at (vector `v`, time `t`, slice `s`) of the sorted list the vector ordinate is
    that of the block's first file and the slice position is the `s`-th distinct position; otherwise
    it raises InvalidStackError — for every S, T, V -/
theorem chk_order_check_is_cellwise (files : List (Int × Int × Int)) (pos : List Int) (S T V : Nat) :
    Py.chk_order_check files pos S T V =
      if (List.range V).all (fun v => (List.range T).all fun t => (List.range S).all fun s =>
          cellOk files pos S T v t s)
      then .ok () else .error PyErr.invalidStack :=
  Src.chk_order_check_eq files pos S T V

/-- **the cell-wise condition of the translated `_chk_order` loop is the two order conjuncts of the
    model's acceptance test** (block-wise: every vector block constant, every volume lists the sorted
    distinct positions), for a sorted list of S·T·V files -/
theorem cells_are_model_blocks (sorted : List F) (pos : List Int) (S T V : Nat)
    (hlen : sorted.length = S * T * V) (hpos : pos.length = S) :
    ((List.range V).all fun v => (List.range T).all fun t => (List.range S).all fun s =>
        cellOk (sorted.map key) pos S T v t s) =
      ((chunks (T * S) V sorted).all allSameV &&
       (chunks S (T * V) sorted).all (fun b => b.map (·.p) == pos)) :=
  Src.cells_eq_chunks sorted pos S T V hlen hpos

/-- **the model's acceptance test is what the translated Python does**: `get_shape`'s count checks
    followed by `_chk_order`'s thorough check on the list the two sorts produce succeed exactly when
    the model's `acceptB` holds, with the model's dimensions — for every list of files -/
theorem get_shape_accepts_iff_model (spacingOk : List Int → Bool) (files : List F) :
    acceptB spacingOk files = true ↔
      Py.get_shape_counts files.length (dimS files) (dimV files)
          (spacingOk (distinctSorted (files.map (·.p)))) = .ok (dimS files, dimT files, dimV files) ∧
      Py.chk_order_check ((chkSort (dimS files) (files.length / dimS files) files).map key)
          (distinctSorted (files.map (·.p))) (dimS files) (dimT files) (dimV files) = .ok () :=
  Src.source_accepts_iff spacingOk files

/-- the translator translated every function of this group (dcmstack.py: DicomStack.get_shape / _chk_order) -/
theorem translator_complete_stack : Gen.codeMissing_stack = [] := rfl

end Source
