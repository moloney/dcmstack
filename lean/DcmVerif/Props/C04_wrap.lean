import DcmVerif.Proofs.Wrap
/-! Property theorems for C04 at wrapper level (voxel data, affines). Statements only; proofs are by reference to `Proofs/Wrap.lean`. -/
set_option autoImplicit false

namespace C04
variable {α : Type}
open Wrap

/-- **piece `idx` of `split(dim)` is the `idx`-th hyperplane**: for every 3- to 5-D array and every
    axis, the piece's shape is the parent's with the split axis singular and trailing singular axes
    beyond the third trimmed, and its voxel `x` is the parent's voxel `x` with the split axis fixed to
    `idx` -/
theorem split_data_hyperplane (a : Arr α) (dim idx : Nat) (h3 : 3 ≤ a.shape.length)
    (h5 : a.shape.length ≤ 5) (hd : dim < a.shape.length) :
    (splitData a dim idx).shape = trimShape a.shape.length (a.shape.set dim 1) ∧
    ∀ x, InRange (splitData a dim idx).shape x →
      (splitData a dim idx).el x = a.el ((pad a.shape.length x).set dim idx) :=
  Wrap.splitData_spec a dim idx hd

/-- as many pieces as the axis is long, in index order -/
theorem split_piece_count (a : Arr α) (dim : Nat) : (splitAll a dim).length = a.shape.getD dim 0 :=
  Wrap.splitAll_length a dim

theorem split_piece_order (a : Arr α) (dim i : Nat) (hi : i < (splitAll a dim).length) :
    (splitAll a dim)[i] = splitData a dim i :=
  Wrap.splitAll_get a dim i hi

/-- **the affine of piece `i`**: the parent's best affine, moved by `i` steps of the split axis for
    a spatial split and unchanged otherwise — for any number of pieces -/
theorem split_affine (h : Hdr) (dim n i : Nat) (hi : i < n) :
    (splitAffs h dim n)[i]? =
      some (if dim < 3 then h.best.shift (V3.smul (i : Int) (h.best.col dim)) else h.best) :=
  Wrap.splitAffs_get h dim n i hi

/-- voxel `(x, y, z)` of piece `i` lies where the parent's voxel with `i` added on the split axis
    lies; in particular voxel 0 of the piece is sent to where voxel `i` of the parent was sent -/
theorem split_affine_voxel (A : Aff) (dim : Nat) (i x y z : Int) :
    (A.shift (V3.smul i (A.col dim))).apply x y z =
      match dim with
      | 0 => A.apply (x + i) y z
      | 1 => A.apply x (y + i) z
      | _ => A.apply x y (z + i) :=
  Wrap.shift_apply A dim i x y z

/-- the header a piece is built with reports the piece affine, whatever transforms were coded -/
theorem split_piece_header (h : Hdr) (a : Aff) : (pieceHdr h a).best = a :=
  Wrap.pieceHdr_best h a

end C04
