import DcmVerif.Proofs.Code_orient
/-! The tie by proof (dcmstack.py: the voxel_order checks of reorder_voxels): functions translated from the Python source on every run
(`tools/gen_code.py` → `Generated/Code_orient.lean`) are the model functions the property theorems speak about.
Statements only; proofs are by reference to `Proofs/Code_orient.lean`. One file per function group, so that an edit
of one function only unsettles the properties that depend on it. -/
set_option autoImplicit false

namespace Source
open Src Orient

/-- **the `voxel_order` checks of `reorder_voxels` as written in dcmstack.py pass exactly when the model's `checkCode` holds**
    (ValueError otherwise), for every string -/
theorem check_voxel_order_is_model (s : List Char) :
    Py.check_voxel_order s = if checkCode s then .ok () else .error PyErr.valueError :=
  Src.check_voxel_order_eq s

/-- the translator translated every function of this group (dcmstack.py: the voxel_order checks of reorder_voxels) -/
theorem translator_complete_orient : Gen.codeMissing_orient = [] := rfl

end Source
