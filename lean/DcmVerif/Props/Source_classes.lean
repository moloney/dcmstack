import DcmVerif.Proofs.Code_classes
/-! The tie by proof (dcmmeta.py: get_valid_classes, get_multiplicity): functions translated from the Python source on every run
(`tools/gen_code.py` → `Generated/Code_classes.lean`) are the model functions the property theorems speak about.
Statements only; proofs are by reference to `Proofs/Code_classes.lean`. One file per function group, so that an edit
of one function only unsettles the properties that depend on it. -/
set_option autoImplicit false

namespace Source
variable {α κ : Type}

/-- **`get_valid_classes` as written in dcmmeta.py is the model's `validClasses`** (3 to 5 axes) … -/
theorem get_valid_classes_is_model (e : DExt κ α) (sdArg : Option Nat) (h3 : 3 ≤ e.shape.length)
    (h5 : e.shape.length ≤ 5) :
    Py.get_valid_classes e.shape = .ok (validClasses (e.shp sdArg)) :=
  Src.get_valid_classes_eq e sdArg h3 h5

/-- … and raises ValueError for any other number of axes -/
theorem get_valid_classes_refuses (shape : List Nat) (h : ¬ (3 ≤ shape.length ∧ shape.length ≤ 5)) :
    Py.get_valid_classes shape = .error PyErr.valueError :=
  Src.get_valid_classes_refuses shape h

/-- **`get_multiplicity` as written in dcmmeta.py is the model's `mult`** for every classification
    valid for the shape (`n_slices` is `shape[slice_dim]`, or None without slice dimension) … -/
theorem get_multiplicity_is_model (e : DExt κ α) (h3 : 3 ≤ e.shape.length) (h5 : e.shape.length ≤ 5)
    (c : Cls) (hv : c ∈ validClasses e.shp) :
    Py.get_multiplicity e.shape (e.sliceDim.map fun d => e.shape.getD d 1) c = .ok (mult e.shp c) :=
  Src.get_multiplicity_eq e h3 h5 c hv

/-- the translator translated every function of this group (dcmmeta.py: get_valid_classes, get_multiplicity) -/
theorem translator_complete_classes : Gen.codeMissing_classes = [] := rfl

end Source
