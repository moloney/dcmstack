import DcmVerif.Props.Source_dicts
import DcmVerif.Props.Source_subset
import DcmVerif.Props.Source_values
import DcmVerif.Props.Source_classes
import DcmVerif.Props.Source_simplify
import DcmVerif.Props.Source_shapes
import DcmVerif.Props.Source_wrapsplit
import DcmVerif.Props.C04_wrap
import DcmVerif.Proofs.Total
/-! Property theorems for C04. Statements only; proofs are by reference to `Proofs/`. -/
set_option autoImplicit false
open Cls

namespace C04
variable {α : Type} [DecidableEq α]

theorem subset_lookup_slice_raw (sh : Shp) (wf : WFnd sh) (hsl : sh.hasSlice = true) (c : Cls)
    (hps : perSlice c = true) (hv : c ∈ validClasses sh) (vals : List α)
    (hlen : vals.length = mult sh c) (idx t v : Nat)
    (hidx : idx < sh.S) (ht : t < sh.T) (hvv : v < sh.V) :
    let rs := sliceSubsetShp sh
    let d := copySliceDest (validClasses rs) c
    lookupK rs d (copySliceVals sh.S (mult rs d) idx vals) 0 t v = lookupK sh c vals idx t v :=
  (copySlice_tab sh wf hsl hps hv (Tab.self sh c vals hlen) idx hidx).2.2.2 0 t v ⟨Nat.one_pos, ht, hvv⟩

/-- `_copy_sample(…, 'time', idx)`: every non-constant class, before the `_simplify` calls -/
theorem subset_lookup_time_raw (sh : Shp) (hc : Consistent sh) (h45 : sh.nd = 4 ∨ sh.nd = 5)
    (hV2 : sh.nd = 5 → 2 ≤ sh.V)
    (c : Cls) (hcg : c ≠ gconst) (vals : List α) (hv : ValidK sh (some (c, vals)))
    (idx : Nat) (hidx : idx < sh.T) :
    let rs := timeSubsetShp sh
    let out := copySampleK sh rs true idx c vals
    ValidK rs (some (out.1, out.2.1)) ∧
    ∀ s v, s < sh.S → v < sh.V →
      lookupK rs out.1 out.2.1 s 0 v = lookupK sh c vals s idx v :=
  have := copySampleTime_tab sh hc h45 hV2 hcg hv.1 (Tab.self sh c vals hv.2) idx hidx
  ⟨⟨this.1, this.2.1⟩, fun s v hs hvv => this.2.2 s 0 v (Box.timeSubset hs hvv)⟩

/-- `_copy_sample(…, 'vector', idx)`: every non-constant class, before the `_simplify` calls -/
theorem subset_lookup_vector_raw (sh : Shp) (hc : Consistent sh) (h5 : sh.nd = 5)
    (c : Cls) (hcg : c ≠ gconst) (vals : List α) (hv : ValidK sh (some (c, vals)))
    (idx : Nat) (hidx : idx < sh.V) :
    let rs := vecSubsetShp sh
    let out := copySampleK sh rs false idx c vals
    ValidK rs (some (out.1, out.2.1)) ∧
    ∀ s t, s < sh.S → t < sh.T →
      lookupK rs out.1 out.2.1 s t 0 = lookupK sh c vals s t idx :=
  have := copySampleVec_tab sh hc h5 hcg hv.1 (Tab.self sh c vals hv.2) idx hidx
  ⟨⟨this.1, this.2.1⟩, fun s t hs ht => this.2.2 s t 0 (Box.vecSubset hs ht)⟩

/-- **C04 (slice axis, per key):** the piece is valid for the one-slice shape, reads the parent at
    the fixed slice, and never stores the key per slice. -/
theorem subset_slice (null : α) (sh : Shp) (hc : Consistent sh)
    (ks : KeyState α) (hv : ValidK sh ks) (idx : Nat) (hidx : idx < sh.S)
    (p : KeyState α) (h : subsetSliceK null sh ks idx = .ok p) :
    ValidK { sh with S := 1 } p ∧ nonSliceClass p ∧
    ∀ t v, t < sh.T → v < sh.V →
      lookupKS null { sh with S := 1 } p 0 t v = lookupKS null sh ks idx t v :=
  have := subsetSlice_den null sh hc (Den.self hv) idx hidx h
  ⟨this.1.1, this.2, fun t v ht hv' => this.1.2 0 t v ⟨Nat.one_pos, ht, hv'⟩⟩

/-- **C04 (time axis, 4-D parent, per key):** the piece is a valid 3-D key state that reads the
    parent at the fixed time point. -/
theorem subset_time4 (null : α) (sh : Shp) (hc : Consistent sh) (h4 : sh.nd = 4)
    (ks : KeyState α) (hv : ValidK sh ks) (idx : Nat) (hidx : idx < sh.T)
    (p : KeyState α) (h : subsetTimeK null sh ks idx = .ok p) :
    ValidK (timeSubsetShp sh) p ∧
    ∀ s, s < sh.S → lookupKS null (timeSubsetShp sh) p s 0 0 = lookupKS null sh ks s idx 0 :=
  have := subsetTime_den null sh hc (Or.inl h4) (by omega) (Den.self hv) idx hidx h
  ⟨this.1, fun s hs => this.2 s 0 0 (Box.timeSubset hs hc.hV)⟩

/-- **C04 (vector axis, 5-D parent, per key)** -/
theorem subset_vector (null : α) (sh : Shp) (hc : Consistent sh) (h5 : sh.nd = 5)
    (ks : KeyState α) (hv : ValidK sh ks) (idx : Nat) (hidx : idx < sh.V)
    (p : KeyState α) (h : subsetVecK null sh ks idx = .ok p) :
    ValidK (vecSubsetShp sh) p ∧
    ∀ s t, s < sh.S → t < sh.T →
      lookupKS null (vecSubsetShp sh) p s t 0 = lookupKS null sh ks s t idx :=
  have := subsetVec_den null sh hc h5 (Den.self hv) idx hidx h
  ⟨this.1, fun s t hs ht => this.2 s t 0 (Box.vecSubset hs ht)⟩

theorem simplify_keeps_lookup (null : α) (sh : Shp) (wf : WF sh) (c : Cls) (vals : List α)
    (hsl : sh.hasSlice = true) (hlen : vals.length = mult sh c) (d : Cls) (out : List α)
    (h : simplifyK null sh c vals = .ok (.moved d out))
    (hbug : ¬ (c = vslices ∧ d = tsamples ∧ 1 < sh.V))
    (s t v : Nat) (hs : s < sh.S) (ht : t < sh.T) (hv : v < sh.V) :
    lookupK sh d out s t v = lookupK sh c vals s t v :=
  _root_.simplify_lookup null sh wf c vals hsl hlen d out h hbug s t v hs ht hv

/-! ### `get_subset` cannot fail in these regions (`Proofs/Key/Simplify.lean`, `Proofs/Key/Subset.lean`) -/

/-- `_simplify` never raises on a valid key (with the F22 repair: whatever the axis lengths) -/
theorem simplify_total (null : α) (sh : Shp) (wf : WF sh) (hsl : sh.hasSlice = true)
    (c : Cls) (vals : List α) (hl : vals.length = mult sh c) :
    ∃ o, simplifyK null sh c vals = .ok o :=
  simplifyK_ok null sh wf hsl c vals hl

theorem subset_slice_total (null : α) (sh : Shp) (hc : Consistent sh)
    (ks : KeyState α) (hv : ValidK sh ks) (idx : Nat) (hidx : idx < sh.S) :
    ∃ p, subsetSliceK null sh ks idx = .ok p :=
  (subsetSlice_run null sh hc (Den.self hv) idx hidx).imp fun _ h => h.1

theorem subset_time_total (null : α) (sh : Shp) (hc : Consistent sh) (h45 : sh.nd = 4 ∨ sh.nd = 5)
    (hV2 : sh.nd = 5 → 2 ≤ sh.V)
    (ks : KeyState α) (hv : ValidK sh ks) (idx : Nat) (hidx : idx < sh.T) :
    ∃ p, subsetTimeK null sh ks idx = .ok p :=
  (subsetTime_run null sh hc h45 hV2 (Den.self hv) idx hidx).imp fun _ h => h.1

theorem subset_vector_total (null : α) (sh : Shp) (hc : Consistent sh) (h5 : sh.nd = 5)
    (ks : KeyState α) (hv : ValidK sh ks) (idx : Nat) (hidx : idx < sh.V) :
    ∃ p, subsetVecK null sh ks idx = .ok p :=
  (subsetVec_run null sh hc h5 (Den.self hv) idx hidx).imp fun _ h => h.1

/-- **C04 (time axis, 5-D parent, per key), after the final `_simplify`:** the piece for time point
    `idx` is valid for the `(x,y,z,1,V)` shape and reads, at every slice and vector position, what the
    parent reads at that time point -/
theorem subset_time5 (null : α) (sh : Shp) (hc : Consistent sh) (h5 : sh.nd = 5) (hV2 : 2 ≤ sh.V)
    (ks : KeyState α) (hv : ValidK sh ks) (idx : Nat) (hidx : idx < sh.T)
    (p : KeyState α) (h : subsetTimeK null sh ks idx = .ok p) :
    ValidK (timeSubsetShp sh) p ∧
    ∀ s v, s < sh.S → v < sh.V →
      lookupKS null (timeSubsetShp sh) p s 0 v = lookupKS null sh ks s idx v :=
  have := subsetTime_den null sh hc (Or.inr h5) (fun _ => hV2) (Den.self hv) idx hidx h
  ⟨this.1, fun s v hs hv' => this.2 s 0 v (Box.timeSubset hs hv')⟩

end C04
