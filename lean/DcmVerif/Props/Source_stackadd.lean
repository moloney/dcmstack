import DcmVerif.Proofs.Code_stackadd
/-! The tie by proof (dcmstack.py: DicomStack.add_dcm, _chk_congruent, _chk_close, _chk_equal): functions translated from the Python source on every run
(`tools/gen_code.py` → `Generated/Code_stackadd.lean`) are the model functions the property theorems speak about.
Statements only; proofs are by reference to `Proofs/Code_stackadd.lean`. One file per function group, so that an edit
of one function only unsettles the properties that depend on it. -/
set_option autoImplicit false

namespace Source
open Src Stk

/-- **`_chk_congruent` as written in dcmstack.py raises `IncongruentImageError` exactly when the model's `incongruentWith` says so** -/
theorem chk_congruent_is_model (ref : Option Cand) (c : Cand) :
    Py.chk_congruent ref c = if incongruentWith ref c then .error PyErr.incongruentImage else .ok () :=
  Src.chk_congruent_eq ref c

/-- **`add_dcm` as written in dcmstack.py is the model's `addDcm`**: same refusals (in the same order of precedence), the
    attributes untouched by a refused dataset, the same recorded state for an accepted one — for a candidate whose sorting tuple
    holds the ordinates the orderings compute (None without an ordering) -/
theorem add_dcm_is_model (tO vO : Bool) (noneCode tOrd vOrd : Int) (st : AddSt) (c : Cand)
    (ht : c.f.t = if tO then tOrd else noneCode) (hv : c.f.v = if vO then vOrd else noneCode) :
    Py.add_dcm tO vO noneCode tOrd vOrd st c = addResult (addDcm (tO || vO) st c) :=
  Src.add_dcm_eq tO vO noneCode tOrd vOrd st c ht hv

/-- the translator translated every function of this group (dcmstack.py: DicomStack.add_dcm, _chk_congruent, _chk_close, _chk_equal) -/
theorem translator_complete_stackadd : Gen.codeMissing_stackadd = [] := rfl

end Source
