import DcmVerif.Props.Source_classes
import DcmVerif.Props.Source_dicts
import DcmVerif.Props.Source_lookup
import DcmVerif.Proofs.Key.GetMeta
/-! Property theorems for C08. Statements only; proofs are by reference to `Proofs/`. -/
set_option autoImplicit false
open Cls

namespace C08
variable {α : Type} [DecidableEq α]

/-- **C08, matching image, in-bounds index:** `get_meta` returns the value at the asked position
    under the documented layout. -/
theorem getMeta_matched (e : ExtGeom) (img : Img) (sh : Shp) (sd : Nat)
    (hm : Matched e img sh sd) (c : Cls) (hcg : c ≠ gconst) (vals : List α)
    (idx : List Nat) (hil : idx.length = img.shape.length)
    (hib : (List.zip idx img.shape).all (fun p => decide (p.1 < p.2)) = true) :
    getMeta e img (some (c, vals)) (some idx) =
      GetOut.ofIdx (lookupK sh c vals (idx.getD sd 0) (idx.getD 3 0) (idx.getD 4 0)) :=
  _root_.getMeta_matched e img sh sd hm c hcg vals idx hil hib

/-- **C08, mismatch:** when the image no longer matches the extension for the key's class, the
    default is returned — whatever the index (never a value from another position, never an
    exception). -/
theorem getMeta_mismatch (e : ExtGeom) (img : Img) (c : Cls) (hcg : c ≠ gconst) (vals : List α)
    (h : metaValid e img c = false) (index : Option (List Nat)) :
    getMeta e img (some (c, vals)) index = .dflt :=
  _root_.getMeta_mismatch e img c hcg vals h index

/-- **C08, no index:** only global constants are returned without an index. -/
theorem getMeta_noindex (e : ExtGeom) (img : Img) (c : Cls) (hcg : c ≠ gconst) (vals : List α) :
    getMeta e img (some (c, vals)) none = .dflt :=
  _root_.getMeta_noindex e img c hcg vals

/-- **C08, bounds:** on a matching image a wrong-length or out-of-range index raises. -/
theorem getMeta_bounds (e : ExtGeom) (img : Img) (c : Cls) (hcg : c ≠ gconst) (vals : List α)
    (hv : metaValid e img c = true) (idx : List Nat)
    (hbad : idx.length ≠ img.shape.length ∨
      (List.zip idx img.shape).all (fun p => decide (p.1 < p.2)) = false) :
    getMeta e img (some (c, vals)) (some idx) = .indexError :=
  _root_.getMeta_bounds e img c hcg vals hv idx hbad

theorem metaValid_matched (e : ExtGeom) (img : Img) (sh : Shp) (sd : Nat)
    (hm : Matched e img sh sd) (c : Cls) : metaValid e img c = true :=
  _root_.metaValid_matched e img sh sd hm c

end C08
