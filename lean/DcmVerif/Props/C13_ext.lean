import DcmVerif.Proofs.ExtFactor
/-! Property theorems for C13_ext. Statements only; proofs are by reference to `Proofs/`. -/
set_option autoImplicit false

namespace C13
variable {κ α : Type} [DecidableEq κ] [DecidableEq α]
open DExt

/-- **C13(b), merges:** after `from_sequence` the entry of key `k` in the result is what the per-key
    merge of the inputs' entries for `k` gives (and nothing else) — whatever other keys are
    present, in whatever order -/
theorem merge_factorises (null : α) (es : List (DExt κ α)) (dim : Nat) (sdArg : Option Nat)
    (use : List Bool) (r : DExt κ α) (h : fromSequence null es dim sdArg use = .ok r) :
    ∃ sh1 osh sd, ∀ k,
      (r.ents.find? fun x => x.1 == k) =
        if k ∈ (es.flatMap keys).eraseDups then (mergeKey null sh1 osh sd dim es use k).kept
        else none :=
  DExt.fromSequence_key null es dim sdArg use r h

/-- **C13(b), subsets:** the entry of key `k` in `get_subset(dim, idx)` is what the per-key subset
    makes of the parent's entry for `k` -/
theorem subset_factorises (null : α) (e : DExt κ α) (dim idx : Nat) (r : DExt κ α)
    (h : getSubset null e dim idx = .ok r) :
    ∃ rsh, ∀ k,
      (r.ents.find? fun x => x.1 == k) =
        (e.ents.find? fun x => x.1 == k).bind
          fun x => (subsetEntry null e.shp rsh e.sliceDim dim idx x).kept :=
  DExt.getSubset_key null e dim idx r h

end C13
