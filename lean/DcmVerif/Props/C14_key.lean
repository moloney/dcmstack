import DcmVerif.Proofs.Key.Dict
/-! Property theorems for C14_key. Statements only; proofs are by reference to `Proofs/`. -/
set_option autoImplicit false

namespace C14
variable {α : Type} [DecidableEq α] {κ : Type} [DecidableEq κ]

theorem regex_filter {ρ : Type} (mtch : ρ → κ → Bool) (excl incl : List ρ) (k : κ) :
    regexFilter mtch excl incl k = true ↔
      (∃ e, e ∈ excl ∧ mtch e k = true) ∧ ¬ (∃ i, i ∈ incl ∧ mtch i k = true) :=
  _root_.regexFilter_iff mtch excl incl k

/-- extra lists compose by append -/
theorem regex_filter_append {ρ : Type} (mtch : ρ → κ → Bool) (e1 e2 i1 i2 : List ρ) (k : κ) :
    regexFilter mtch (e1 ++ e2) (i1 ++ i2) k =
      ((regexFilter mtch e1 [] k || regexFilter mtch e2 [] k) &&
        !(i1.any (mtch · k) || i2.any (mtch · k))) :=
  _root_.regexFilter_append mtch e1 e2 i1 i2 k

/-- **C14:** the filter removes exactly the keys it is told to — whatever their classification —
    and leaves every other key as it was. -/
theorem filter_key (e : Ext κ α) (drop : κ → Bool) (k : κ) :
    (e.filterMeta drop).key k = if drop k then none else e.key k :=
  _root_.Ext.key_filterMeta e drop k

end C14
