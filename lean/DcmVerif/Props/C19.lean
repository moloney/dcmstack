import DcmVerif.Props.Source_cli
import DcmVerif.Proofs.Cli
/-! Property theorems for C19. Statements only; proofs are by reference to `Proofs/`. -/
set_option autoImplicit false

namespace C19
variable {κ α : Type} [DecidableEq κ] [DecidableEq α]
open Cli

/-- the current source does not alias the module default lists (translator flag) -/
theorem cli_no_alias : Gen.cliAliasesDefaults = false :=
  Cli.cli_no_alias 

/-- **no hidden state:** an invocation leaves the module defaults as they were -/
theorem cli_stateless (g : Globals) (a : Args) : (mainFilterLists g a).1 = g :=
  Cli.cli_stateless g a

/-- **the i-th output of any invocation sequence depends only on its own arguments** -/
theorem cli_seq_independent (g : Globals) (as : List Args) :
    runSeq Gen.cliAliasesDefaults g as =
      as.map fun a => (g.excl ++ a.extraExcl, g.incl ++ a.extraIncl) :=
  Cli.cli_seq_independent g as

/-- with aliasing the second invocation still filters with the first one's patterns (what the
    code did before the repair) -/
theorem alias_leaks :
    runSeq true ⟨["Patient"], []⟩ [⟨["Echo"], []⟩, ⟨[], []⟩] =
      [(["Patient", "Echo"], []), (["Patient", "Echo"], [])] :=
  Cli.alias_leaks 

/-- the filter of an invocation is exclude-unless-included over defaults plus extras -/
theorem cli_filter_is_exclude_unless_included (a : Args) (k : String) :
    Flt.cliFilter a.extraExcl a.extraIncl k = true ↔
      (∃ e ∈ Gen.defaultExcl ++ a.extraExcl, Flt.matchLit e k = true) ∧
        ¬ ∃ i ∈ Gen.defaultIncl ++ a.extraIncl, Flt.matchLit i k = true :=
  Cli.cli_filter_is_exclude_unless_included a k

/-- **output names are unique:** whatever the natural names of the groups are (also when one
    already ends in a suffix) no name is used twice -/
theorem names_unique (fmt : Nat → String) (ns : List String) :
    ∀ (gen : List String) (idx : Nat) (out : List String), outNames fmt ns gen idx = some out →
      out.Nodup ∧ ∀ c ∈ out, c ∉ gen :=
  Cli.names_unique fmt ns

/-- one name per group, in group order -/
theorem names_length (fmt : Nat → String) (ns : List String) :
    ∀ (gen : List String) (idx : Nat) (out : List String), outNames fmt ns gen idx = some out →
      out.length = ns.length :=
  Cli.names_length fmt ns

/-- **inject refuses** an invalid classification, a wrong number of values, and an existing key
    without `-f` (exit code 1, nothing written) -/
theorem inject_refuses (e : DExt κ α) (cls : Cls) (key : κ) (vals : List α) (force : Bool)
    (h : cls ∉ validClasses e.shp ∨ vals.length ≠ mult e.shp cls ∨
         (e.ents.any (fun x => x.1 == key) = true ∧ force = false)) :
    inject e cls key vals force = .rc 1 :=
  Cli.inject_refuses e cls key vals force h

/-- **inject adds exactly the given values under the given key and leaves every other key alone** -/
theorem inject_only_key (e r : DExt κ α) (cls : Cls) (key : κ) (vals : List α) (force : Bool)
    (h : inject e cls key vals force = .ok r) :
    (key, cls, vals) ∈ r.ents ∧
    (∀ x, x.1 ≠ key → (x ∈ r.ents ↔ x ∈ e.ents)) ∧
    (∀ x ∈ r.ents, x.1 = key → x = (key, cls, vals)) ∧
    r.shape = e.shape ∧ r.sliceDim = e.sliceDim :=
  Cli.inject_only_key e r cls key vals force h

/-- **inject keeps the extension valid**: the new entry sits in a valid class with the right count
    (a constant has one value; a varying class of multiplicity 1 holds a one-element list) -/
theorem inject_valid (e r : DExt κ α) (cls : Cls) (key : κ) (vals : List α) (force : Bool)
    (hv : e.validB = true) (h : inject e cls key vals force = .ok r) : r.validB = true :=
  Cli.inject_valid e r cls key vals force hv h

end C19
