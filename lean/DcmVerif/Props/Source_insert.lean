import DcmVerif.Proofs.Code_insert
/-! The tie by proof (dcmmeta.py: per-key dictionary edits of merges (_change_class, _insert_slice, _insert_non_slice, _insert_sample)): functions translated from the Python source on every run
(`tools/gen_code.py` → `Generated/Code_insert.lean`) are the model functions the property theorems speak about.
Statements only; proofs are by reference to `Proofs/Code_insert.lean`. One file per function group, so that an edit
of one function only unsettles the properties that depend on it. -/
set_option autoImplicit false
open Cls

namespace Source
variable {α κ : Type}
open Src

/-- **`_change_class` as written in dcmmeta.py is the model's `changeClassK`** on the dictionaries of one key (absent, or held by
    one class valid for the shape): the values are written under the new class and the key is deleted from the old one -/
theorem change_class_is_model [DecidableEq α] (null : α) (e : DExt κ α)
    (h3 : 3 ≤ e.shape.length) (h5 : e.shape.length ≤ 5) (hpos : ∀ x ∈ e.shape, 0 < x)
    (ks : KeyState α) (hks : ∀ c v, ks = some (c, v) → c ∈ validClasses e.shp ∧ mult e.shp c ≠ 0) (new : Cls)
    (hn : e.sliceDim.isSome = true ∨ perSlice new = false) :
    Py.change_class null e.shape (e.sliceDim.map fun d => e.shape.getD d 1) (toDict ks) new =
      errV ((changeClassK null (e.shp none) ks new).map toDict) :=
  Src.change_class_eq null e h3 h5 hpos ks hks new hn

/-- **the reclassification `_insert` applies to a key before inserting, as written in dcmmeta.py, is the model's `reclassifyK`** -/
theorem reclassify_is_model [DecidableEq α] (null : α) (e : DExt κ α)
    (h3 : 3 ≤ e.shape.length) (h5 : e.shape.length ≤ 5) (hpos : ∀ x ∈ e.shape, 0 < x) (hsl : e.sliceDim.isSome = true)
    (ks : KeyState α) (hks : ∀ c v, ks = some (c, v) → c ∈ validClasses e.shp ∧ mult e.shp c ≠ 0) (oc : Cls) :
    Py.reclassify null e.shape (e.sliceDim.map fun d => e.shape.getD d 1) (toDict ks) (contentOf' e) oc =
      errV ((reclassifyK null e.shp ks oc).map toDict) :=
  Src.reclassify_eq null e h3 h5 hpos hsl ks hks oc

/-- **the insertion `_insert(dim, other)` applies to a key, as written in dcmmeta.py**: `_insert_slice` along the slice axis of
    `self`, else `_insert_non_slice` for another spatial axis, `_insert_sample` for time (3) and vector (4), nothing otherwise —
    the case distinction of the model's `mergeKey` -/
theorem insert_dispatch_is_model [DecidableEq α] (null : α) (shape : List Nat) (nsl : Option Nat) (d : KeyDict α) (sd : Option Nat)
    (content : List String) (oshape : List Nat) (onsl : Option Nat) (ovals : List α) (ocls : Option Cls) (dim : Nat) :
    Py.insert_dispatch null shape nsl d sd content oshape onsl ovals ocls dim =
      if some dim = sd then Py.insert_slice null shape nsl d sd content oshape onsl ovals ocls
      else if dim < 3 then Py.insert_non_slice null shape nsl d sd content oshape onsl ovals ocls
      else if dim = 3 then Py.insert_sample null shape nsl d sd content oshape onsl ovals ocls "time"
      else if dim = 4 then Py.insert_sample null shape nsl d sd content oshape onsl ovals ocls "vector"
      else .ok d :=
  Src.insert_dispatch_eq null shape nsl d sd content oshape onsl ovals ocls dim

/-- **`_insert_slice` as written in dcmmeta.py is the model's `insertSliceK`** on the dictionaries of one key: constants that differ
    become per-slice values of the first base present (time, vector, global), time slices are appended, everything else goes
    through global slices with the new slice interleaved into every volume -/
theorem insert_slice_is_model [DecidableEq α] (null : α) (e o : DExt κ α) (sd : Nat)
    (h3 : 3 ≤ e.shape.length) (h5 : e.shape.length ≤ 5) (hpos : ∀ x ∈ e.shape, 0 < x)
    (hsl : e.sliceDim.isSome = true) (hosl : o.sliceDim.isSome = true)
    (hbase : ∀ d, basePresent e.shp d = true → d ∈ validClasses e.shp)
    (ho3 : 3 ≤ o.shape.length) (ho5 : o.shape.length ≤ 5) (hopos : ∀ x ∈ o.shape, 0 < x) (hsd : sd < o.shape.length)
    (c : Cls) (lv : List α) (hc : c ∈ validClasses e.shp) (hcm : mult e.shp c ≠ 0)
    (other : KeyState α) (hother : ∀ c v, other = some (c, v) → c ∈ validClasses o.shp ∧ mult o.shp c ≠ 0) :
    Py.insert_slice null e.shape (e.sliceDim.map fun d => e.shape.getD d 1) (toDict (some (c, lv))) (some sd) (contentOf' e)
        o.shape (o.sliceDim.map fun d => o.shape.getD d 1) (valuesOf null other) (other.map (·.1)) =
      errV ((insertSliceK null e.shp (o.shp (some sd)) (some (c, lv)) other).map toDict) :=
  Src.insert_slice_eq null e o sd h3 h5 hpos hsl hosl hbase ho3 ho5 hopos hsd c lv hc hcm other hother

/-- **`_insert_non_slice` as written in dcmmeta.py is the model's `insertNonSliceK`**: the key stays only if `other`, widened to
    the class `self` holds it under, has the same values -/
theorem insert_non_slice_is_model [DecidableEq α] (null : α) (e o : DExt κ α) (sd : Nat)
    (h3 : 3 ≤ e.shape.length) (h5 : e.shape.length ≤ 5)
    (ho3 : 3 ≤ o.shape.length) (ho5 : o.shape.length ≤ 5) (hopos : ∀ x ∈ o.shape, 0 < x) (hsd : sd < o.shape.length)
    (c : Cls) (lv : List α) (hc : c ∈ validClasses e.shp)
    (other : KeyState α) (hother : ∀ c v, other = some (c, v) → c ∈ validClasses o.shp ∧ mult o.shp c ≠ 0)
    (content : List String) :
    Py.insert_non_slice null e.shape (e.sliceDim.map fun d => e.shape.getD d 1) (toDict (some (c, lv))) (some sd) content
        o.shape (o.sliceDim.map fun d => o.shape.getD d 1) (valuesOf null other) (other.map (·.1)) =
      errV ((insertNonSliceK null (o.shp (some sd)) (some (c, lv)) other).map toDict) :=
  Src.insert_non_slice_eq null e o sd h3 h5 ho3 ho5 hopos hsd c lv hc other hother content

/-- **`_insert_sample` as written in dcmmeta.py is the model's `insertSampleK`** on the dictionaries of one key: constants that
    differ become samples of the merged axis, samples are appended, everything else goes through global slices — interleaved per
    vector component in a time merge of a five-axis extension, appended otherwise -/
theorem insert_sample_is_model [DecidableEq α] (null : α) (e o : DExt κ α) (sd : Nat) (isTime : Bool)
    (h3 : 3 ≤ e.shape.length) (h5 : e.shape.length ≤ 5) (hpos : ∀ x ∈ e.shape, 0 < x)
    (hsl : e.sliceDim.isSome = true)
    (ho3 : 3 ≤ o.shape.length) (ho5 : o.shape.length ≤ 5) (hopos : ∀ x ∈ o.shape, 0 < x) (hsd : sd < o.shape.length)
    (hoT : e.shape.length = 5 → 3 < o.shape.length)
    (hsamp : (if isTime then tsamples else vsamples) ∈ validClasses e.shp)
    (c : Cls) (lv : List α) (hc : c ∈ validClasses e.shp) (hcm : mult e.shp c ≠ 0)
    (other : KeyState α) (hother : ∀ c v, other = some (c, v) → c ∈ validClasses o.shp ∧ mult o.shp c ≠ 0)
    (content : List String) :
    Py.insert_sample null e.shape (e.sliceDim.map fun d => e.shape.getD d 1) (toDict (some (c, lv))) (some sd) content
        o.shape (o.sliceDim.map fun d => o.shape.getD d 1) (valuesOf null other) (other.map (·.1))
        (if isTime then "time" else "vector") =
      errV ((insertSampleK null isTime e.shp (o.shp (some sd)) (some (c, lv)) other).map toDict) :=
  Src.insert_sample_eq null e o sd isTime h3 h5 hpos hsl ho3 ho5 hopos hsd hoT hsamp c lv hc hcm other hother content

/-- the translator translated every function of this group (dcmmeta.py: per-key dictionary edits of merges (_change_class, _insert_slice, _insert_non_slice, _insert_sample)) -/
theorem translator_complete_insert : Gen.codeMissing_insert = [] := rfl

end Source
