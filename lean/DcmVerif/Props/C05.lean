import DcmVerif.Props.Source_dicts
import DcmVerif.Props.Source_subset
import DcmVerif.Props.Source_insert
import DcmVerif.Props.Source_content
import DcmVerif.Props.Source_insertall
import DcmVerif.Props.Source_values
import DcmVerif.Props.Source_classes
import DcmVerif.Props.Source_simplify
import DcmVerif.Props.Source_shapes
import DcmVerif.Props.Source_wrapsplit
import DcmVerif.Props.Source_wrapmerge
import DcmVerif.Props.C05_wrap
import DcmVerif.Proofs.Total
/-! Property theorems for C05. Statements only; proofs are by reference to `Proofs/`. -/
set_option autoImplicit false

namespace C05
variable {α : Type} [DecidableEq α]

/-- **C05 (slice axis, per key):** splitting a canonical key along the slice axis and merging the
    pieces back in order reproduces it exactly — same class, same values. -/
theorem split_merge_slice_id (null : α) (sh : Shp) (hc : Consistent sh) (hS2 : 2 ≤ sh.S)
    (ks : KeyState α) (hv : ValidK sh ks) (hcan : Canonical null sh ks)
    (pieces : Nat → KeyState α)
    (hp : ∀ i, i < sh.S → subsetSliceK null sh ks i = .ok (pieces i))
    (r : KeyState α)
    (hm : mergeSliceK null sh ((List.range sh.S).map pieces) = .ok r) : r = ks :=
  _root_.split_merge_slice_id null sh hc hS2 ks hv hcan pieces hp r hm

/-- **C05 (time axis of a 4-D extension, per key):** splitting a canonical key along time and
    merging the 3-D pieces back in order reproduces it exactly. -/
theorem split_merge_time_id (null : α) (sh : Shp) (hc : Consistent sh) (h4 : sh.nd = 4)
    (ks : KeyState α) (hv : ValidK sh ks) (hcan : Canonical null sh ks)
    (pieces : Nat → KeyState α)
    (hp : ∀ i, i < sh.T → subsetTimeK null sh ks i = .ok (pieces i))
    (r : KeyState α)
    (hm : mergeTimeK null sh (timeSubsetShp sh) ((List.range sh.T).map pieces) = .ok r) :
    r = ks :=
  _root_.split_merge_time_id null sh hc h4 ks hv hcan pieces hp r hm

/-- **C05 (vector axis of a 5-D extension, per key):** splitting a canonical key along the vector
    axis and merging the pieces back in order reproduces it exactly. -/
theorem split_merge_vector_id (null : α) (sh : Shp) (hc : Consistent sh) (h5 : sh.nd = 5)
    (hV2 : 2 ≤ sh.V)
    (ks : KeyState α) (hv : ValidK sh ks) (hcan : Canonical null sh ks)
    (pieces : Nat → KeyState α)
    (hp : ∀ i, i < sh.V → subsetVecK null sh ks i = .ok (pieces i))
    (r : KeyState α)
    (hm : mergeVecK null sh (vecSubsetShp sh) ((List.range sh.V).map pieces) = .ok r) :
    r = ks :=
  Except.ok.inj (hm.symm.trans (split_merge_vec_run null sh hc h5 hV2 ks hv hcan pieces hp))

/-- Two valid key states in the same class that read the same everywhere hold the same list. -/
theorem canon_class_unique (sh : Shp) (wf : WF sh) (hsl : sh.hasSlice = true) (c : Cls)
    (v1 v2 : List α) (h1 : v1.length = mult sh c) (h2 : v2.length = mult sh c)
    (heq : ∀ s t v, s < sh.S → t < sh.T → v < sh.V →
      lookupK sh c v1 s t v = lookupK sh c v2 s t v) : v1 = v2 :=
  Tab.ext wf hsl (Tab.self sh c v1 h1) ⟨h2, fun s t v hb => (heq s t v hb.1 hb.2.1 hb.2.2).symm⟩

/-! ### without premises (`Proofs/Total.lean`): every split and the merge succeed, and the result is
the original key -/

theorem split_merge_slice_total (null : α) (sh : Shp) (hc : Consistent sh) (hS2 : 2 ≤ sh.S)
    (ks : KeyState α) (hv : ValidK sh ks) (hcan : Canonical null sh ks) :
    ∃ (pieces : Nat → KeyState α) (r : KeyState α),
      (∀ i, i < sh.S → subsetSliceK null sh ks i = .ok (pieces i)) ∧
      mergeSliceK null sh ((List.range sh.S).map pieces) = .ok r ∧ r = ks :=
  Total.split_merge_slice_total null sh hc hS2 ks hv hcan

theorem split_merge_time_total (null : α) (sh : Shp) (hc : Consistent sh) (h4 : sh.nd = 4)
    (ks : KeyState α) (hv : ValidK sh ks) (hcan : Canonical null sh ks) :
    ∃ (pieces : Nat → KeyState α) (r : KeyState α),
      (∀ i, i < sh.T → subsetTimeK null sh ks i = .ok (pieces i)) ∧
      mergeTimeK null sh (timeSubsetShp sh) ((List.range sh.T).map pieces) = .ok r ∧ r = ks :=
  Total.split_merge_time_total null sh hc h4 ks hv hcan

theorem split_merge_vector_total (null : α) (sh : Shp) (hc : Consistent sh) (h5 : sh.nd = 5)
    (hV2 : 2 ≤ sh.V)
    (ks : KeyState α) (hv : ValidK sh ks) (hcan : Canonical null sh ks) :
    ∃ (pieces : Nat → KeyState α) (r : KeyState α),
      (∀ i, i < sh.V → subsetVecK null sh ks i = .ok (pieces i)) ∧
      mergeVecK null sh (vecSubsetShp sh) ((List.range sh.V).map pieces) = .ok r ∧ r = ks :=
  Total.split_merge_vec_total null sh hc h5 hV2 ks hv hcan

end C05
