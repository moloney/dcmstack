import DcmVerif.Proofs.Orient
/-! Property theorems for C20_orient. Statements only; proofs are by reference to `Proofs/`. -/
set_option autoImplicit false

namespace C20
open Orient

/-- **C20 / C02: the permutation returned by the reordering tells where every source axis went:**
    output axis `t[i].1` carries the affine column of input axis `i` (negated when flipped), so
    `permutation[2]` is the axis along which the source slices are stacked and `permutation[0/1]`
    keep pointing along the source row / column directions -/
theorem dim_info_axes (t : List (Nat × Bool)) (ht : t ∈ allT) (c0 c1 c2 : Col) (i : Nat) (hi : i < 3) :
    (mulCols [c0, c1, c2] t)[(t.getD i (0, true)).1]? =
      ([c0, c1, c2][i]?).map fun c => { c with pos := if (t.getD i (0, true)).2 then c.pos else !c.pos } :=
  Orient.mulCols_axis (Orient.allT_perm t ht) [c0, c1, c2] rfl i hi

end C20
