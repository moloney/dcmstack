import DcmVerif.Proofs.Code_data
/-! The tie by proof (dcmstack.py: DicomStack.get_data): functions translated from the Python source on every run
(`tools/gen_code.py` → `Generated/Code_data.lean`) are the model functions the property theorems speak about.
Statements only; proofs are by reference to `Proofs/Code_data.lean`. One file per function group, so that an edit
of one function only unsettles the properties that depend on it. -/
set_option autoImplicit false

namespace Source
variable {α κ : Type}

/-- **the file index `get_data` computes is the model's `fileIdx`** -/
theorem file_idx_is_model (rows cols S T V v t s : Nat) :
    Py.file_idx_slice [rows, cols, S, T, V] v t s = Stk.fileIdx S T s t v :=
  Src.file_idx_eq rows cols S T V v t s

/-- one file per volume: the index is the volume number -/
theorem file_idx_volume_is_model (rows cols S T V v t : Nat) :
    Py.file_idx_volume [rows, cols, S, T, V] v t = v * T + t :=
  Src.file_idx_volume_eq rows cols S T V v t

/-- **the trimming block of `get_data` as written in dcmstack.py is the model's `stackTrim`** -/
theorem get_data_trim_is_model (a : Wrap.Arr α) (rows cols S T V : Nat) :
    Py.get_data_trim a [rows, cols, S, T, V] = .ok (Wrap.stackTrim a T V) :=
  Src.get_data_trim_eq a rows cols S T V

/-- the translator translated every function of this group (dcmstack.py: DicomStack.get_data) -/
theorem translator_complete_data : Gen.codeMissing_data = [] := rfl

end Source
