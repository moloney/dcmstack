import DcmVerif.Proofs.Code_wrapsplit
/-! The tie by proof (dcmmeta.py: NiftiWrapper.split index expressions): functions translated from the Python source on every run
(`tools/gen_code.py` → `Generated/Code_wrapsplit.lean`) are the model functions the property theorems speak about.
Statements only; proofs are by reference to `Proofs/Code_wrapsplit.lean`. One file per function group, so that an edit
of one function only unsettles the properties that depend on it. -/
set_option autoImplicit false

namespace Source
variable {α κ : Type}
open Src Wrap

/-- **the index expression `split` builds, as written in dcmmeta.py, is the model's `splitSpecs`** -/
theorem split_specs_is_model (shape : List Nat) (dim idx : Nat) :
    Py.split_specs shape dim idx = .ok (splitSpecs shape.length dim idx) :=
  Src.split_specs_eq shape dim idx

/-- **the trimming loop of `split`, as written in dcmmeta.py, is the model's `trim`** -/
theorem split_trim_is_model (a : Arr α) : Py.split_trim a = .ok (trim a.shape.length a) :=
  Src.split_trim_eq a

/-- the translator translated every function of this group (dcmmeta.py: NiftiWrapper.split index expressions) -/
theorem translator_complete_wrapsplit : Gen.codeMissing_wrapsplit = [] := rfl

end Source
