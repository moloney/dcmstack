import DcmVerif.Proofs.Code_content
import DcmVerif.Proofs.Code_filter
/-! The property theorem for C14's chain from the source text, from the tie theorems of `Proofs/Code_filter` and
`Proofs/Code_content`. -/
set_option autoImplicit false

namespace C14
variable {α κ ρ : Type} [DecidableEq κ]
open Src

/-- **C14 end to end, from the source text:** `filter_meta(make_key_regex_filter(exclude_res, force_include_res))` as written
    removes, in every valid classification, exactly the entries whose key matches an exclude pattern and no include pattern,
    and leaves every other entry and every other dictionary as it was -/
theorem filter_meta_regex_chain (mtch : ρ → κ → Bool) (excl incl : List ρ) (shape : List Nat) (valid : List Cls)
    (hv : Py.get_valid_classes shape = .ok valid) (content : Content κ α) (h : ContentOk valid content) :
    Py.filter_meta shape content
        (fun k _ => match Py.key_regex_filter mtch excl incl k with | .ok b => b | .error _ => false) =
      .ok (content.map fun p => if p.1 ∈ valid then (p.1, p.2.filter fun q => !regexFilter mtch excl incl q.1) else p) := by
  simp only [key_regex_filter_eq]
  exact filter_meta_eq shape valid hv content h _

end C14
