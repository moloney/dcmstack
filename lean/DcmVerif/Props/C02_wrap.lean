import DcmVerif.Proofs.Wrap
/-! Property theorems for C02 at wrapper level (voxel data, affines). Statements only; proofs are by reference to `Proofs/Wrap.lean`. -/
set_option autoImplicit false

namespace C02
variable {α : Type}
open Wrap

/-- **every output voxel holds the pixel of the file `get_data` assigns to its slice / time /
    vector position** (5-D fill, before trimming) -/
theorem stack_fill (files : List (Arr α)) (blank : α) (rows cols S T V : Nat)
    (i j s t v : Nat) (f : Arr α) (hf : files[v * (T * S) + t * S + s]? = some f) :
    (stackFill files blank rows cols S T V).el [i, j, s, t, v] = f.el [i, j, 0] :=
  Wrap.stackFill_el files blank rows cols S T V i j s t v f hf

/-- trimming unused time / vector axes keeps every voxel -/
theorem stack_data_trim (files : List (Arr α)) (blank : α) (rows cols S T V : Nat)
    (i j s t v : Nat) (f : Arr α) (hf : files[v * (T * S) + t * S + s]? = some f)
    (ht : t < T) (hv : v < V) :
    ((stackData files blank rows cols S T V).shape =
      if V = 1 then (if T = 1 then [rows, cols, S] else [rows, cols, S, T])
      else [rows, cols, S, T, V]) ∧
    (stackData files blank rows cols S T V).el
        (if V = 1 then (if T = 1 then [i, j, s] else [i, j, s, t]) else [i, j, s, t, v]) =
      f.el [i, j, 0] :=
  Wrap.stackData_el files blank rows cols S T V i j s t v f hf ht hv

/-- **the stack affine sends slice index `s` to where file `s` of the first volume lies**: files
    of the first volume at positions `p0 + s·step`, all with the first file's in-plane axes -/
theorem stack_affine (a b : Aff) (rest : List Aff) (S : Nat) (hS : 1 < S)
    (s : Nat) (f : Aff) (_hf : (a :: b :: rest)[s]? = some f)
    (hc0 : f.c0 = a.c0) (hc1 : f.c1 = a.c1)
    (ht : f.t = a.t.add (V3.smul (s : Int) (b.t.sub a.t))) (x y : Int) :
    ∃ R, stackAff (a :: b :: rest) S = some R ∧ R.apply x y (s : Int) = f.apply x y 0 :=
  Wrap.stackAff_consistent a b rest S hS s f hc0 hc1 ht x y

end C02
