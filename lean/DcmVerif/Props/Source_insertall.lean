import DcmVerif.Proofs.Code_insertall
/-! The tie by proof (dcmmeta.py: _insert as a whole): functions translated from the Python source on every run
(`tools/gen_code.py` → `Generated/Code_insertall.lean`) are the model functions the property theorems speak about.
Statements only; proofs are by reference to `Proofs/Code_insertall.lean`. One file per function group, so that an edit
of one function only unsettles the properties that depend on it. -/
set_option autoImplicit false
open Cls

namespace Source
variable {α κ : Type}
open Src
variable [DecidableEq κ] [DecidableEq α]

/-- **`_insert` as written in dcmmeta.py leaves `other` as it found it** — whether the slice meta data is used or put aside,
    and whether the `try` block ends normally or with an exception; what it does to `self` is the `try` block run against `other`
    with its per-slice dictionaries emptied when the slice normals differ -/
theorem insert_leaves_other_unchanged [DecidableEq α] (null : α) (ss : List Nat) (sn sd : Option Nat) (bases : List String) (kc0 : KContent κ α)
    (os : List Nat) (on : Option Nat) (other0 : Content κ α) (use : Bool) (dim : Nat) (valid : List Cls)
    (hv : Py.get_valid_classes os = .ok valid) (hnd : valid.Nodup) (hn : (other0.map (·.1)).Nodup)
    (hp : ∀ c ∈ valid, c ∈ other0.map (·.1)) :
    Py.insert_whole null ss sn sd bases kc0 os on other0 use dim =
      .ok (Py.insert_try null ss sn sd bases kc0 os on
            (if use then other0 else setSlices valid (fun _ => []) other0) dim, other0) :=
  Src.insert_whole_eq null ss sn sd bases kc0 os on other0 use dim valid hv hnd hn hp

/-- **`_insert` on the dictionaries of a model extension**: `other` is left as it was, and `self` sees `other` without its
    per-slice entries (`clearSliceMeta`) when the slice normals differ — the `effKey` of the model's `mergeKey` -/
theorem insert_on_model_extension [DecidableEq α] (null : α) (ss : List Nat) (sn sd : Option Nat) (bases : List String) (kc0 : KContent κ α)
    (o : DExt κ α) (h3 : 3 ≤ o.shape.length) (h5 : o.shape.length ≤ 5) (on : Option Nat) (use : Bool) (dim : Nat) :
    Py.insert_whole null ss sn sd bases kc0 o.shape on (toContent o) use dim =
      .ok (Py.insert_try null ss sn sd bases kc0 o.shape on (toContent (if use then o else o.clearSliceMeta)) dim,
           toContent o) :=
  Src.insert_whole_on_ext null ss sn sd bases kc0 o h3 h5 on use dim

/-- **the `try` block of `_insert` as written in dcmmeta.py treats keys independently**: when it ends normally, every key of a
    classification dictionary of `other` — and, in the round of the global constants, every key only `self` has — holds what
    the reclassification followed by the insertion make of *its own* entry in `self` and *its own* values in `other`, and every
    other key of `self` holds what it held; provided no key is listed twice (keys are unique in `other` and in `self`) -/
theorem insert_treats_keys_independently (null : α) (ss : List Nat) (sn sd : Option Nat) (bases : List String) (kc0 kc' : KContent κ α)
    (os : List Nat) (on : Option Nat) (oc : Content κ α) (dim : Nat) (valid sv : List Cls) (oks : List κ)
    (hv : Py.get_valid_classes os = .ok valid) (hsv : Py.get_valid_classes ss = .ok sv) (hk : Py.get_keys os oc = .ok oks)
    (hnd : (valid.flatMap (roundKeys oc ((KContent.keys sv kc0).filter fun key => !oks.contains key))).Nodup)
    (h : Py.insert_try null ss sn sd bases kc0 os on oc dim = .ok kc') :
    (∀ c k, c ∈ valid → k ∈ roundKeys oc ((KContent.keys sv kc0).filter fun key => !oks.contains key) c →
        keyStep null ss sn sd bases os on valid oc dim c k (kc0.get k) = .ok (kc'.get k)) ∧
    (∀ k, (∀ c ∈ valid, k ∉ roundKeys oc ((KContent.keys sv kc0).filter fun key => !oks.contains key) c) →
        kc'.get k = kc0.get k) :=
  Src.insert_try_per_key null ss sn sd bases kc0 kc' os on oc dim valid sv oks hv hsv hk hnd h

/-- **the `try` block of `_insert` on the dictionaries of a model extension treats keys independently** — `insert_try_per_key`
    with its premises discharged: `other` any model extension with 3 to 5 axes and unique keys, `self` any per-key view with
    unique keys -/
theorem insert_treats_keys_independently_on_model_extension [DecidableEq α] (null : α) (ss : List Nat) (sn sd : Option Nat) (bases : List String)
    (kc0 kc' : KContent κ α) (hk : (kc0.map (·.1)).Nodup) (sv : List Cls) (hsv : Py.get_valid_classes ss = .ok sv)
    (o : DExt κ α) (h3 : 3 ≤ o.shape.length) (h5 : o.shape.length ≤ 5) (hn : (o.ents.map (·.1)).Nodup)
    (on : Option Nat) (dim : Nat)
    (h : Py.insert_try null ss sn sd bases kc0 o.shape on (toContent o) dim = .ok kc') :
    (∀ c k, c ∈ validClasses o.shp → k ∈ roundKeys (toContent o) (missingOn sv kc0 o) c →
        keyStep null ss sn sd bases o.shape on (validClasses o.shp) (toContent o) dim c k (kc0.get k) = .ok (kc'.get k)) ∧
    (∀ k, (∀ c ∈ validClasses o.shp, k ∉ roundKeys (toContent o) (missingOn sv kc0 o) c) → kc'.get k = kc0.get k) :=
  Src.insert_try_per_key_on_ext null ss sn sd bases kc0 kc' hk sv hsv o h3 h5 hn on dim h

/-- **what `_insert` does to one key along a spatial axis that is not the slice axis is the model's `stepNonSliceK`**: the
    translated reclassification followed by the translated insertion, on the dictionaries of a key held as the model holds it,
    give the dictionaries of the model's result (or `ValueError` where the model has its error) — for a key at least one side
    has, when `self` and `other` have the same slices, time points and vector components (a merge along a non-slice spatial
    axis changes none of them) -/
theorem insert_key_step_non_slice_is_model (null : α) (e o : DExt κ α) (sd dim : Nat)
    (h3 : 3 ≤ e.shape.length) (h5 : e.shape.length ≤ 5) (hpos : ∀ x ∈ e.shape, 0 < x) (hsl : e.sliceDim = some sd)
    (ho3 : 3 ≤ o.shape.length) (ho5 : o.shape.length ≤ 5) (hopos : ∀ x ∈ o.shape, 0 < x) (hsd : sd < o.shape.length)
    (hsh : o.shp (some sd) = e.shp) (hvo : validClasses o.shp = validClasses e.shp)
    (hbase : ∀ d, basePresent e.shp d = true → d ∈ validClasses e.shp)
    (hdim : dim < 3) (hds : dim ≠ sd)
    (ks other : KeyState α) (hks : ∀ c v, ks = some (c, v) → c ∈ validClasses e.shp ∧ mult e.shp c ≠ 0)
    (hother : ∀ c v, other = some (c, v) → c ∈ validClasses o.shp ∧ mult o.shp c ≠ 0)
    (hnn : ¬ (ks = none ∧ other = none))
    (valid : List Cls) (oc : Content κ α) (k : κ) (hov : Content.valuesAndClass valid oc k = other) :
    keyStep null e.shape (e.sliceDim.map fun d => e.shape.getD d 1) (some sd) (contentOf' e) o.shape
        (o.sliceDim.map fun d => o.shape.getD d 1) valid oc dim (otherClass other) k (toDict ks) =
      errV ((stepNonSliceK null e.shp ks other).map toDict) :=
  Src.keyStep_non_slice_eq null e o sd dim h3 h5 hpos hsl ho3 ho5 hopos hsd hsh hvo hbase hdim hds ks other hks hother hnn valid oc k hov

/-- **what `_insert` does to one key along the slice axis is the model's `stepSliceK`** -/
theorem insert_key_step_slice_is_model (null : α) (e o : DExt κ α) (sd : Nat)
    (h3 : 3 ≤ e.shape.length) (h5 : e.shape.length ≤ 5) (hpos : ∀ x ∈ e.shape, 0 < x) (hsl : e.sliceDim = some sd)
    (hosl : o.sliceDim.isSome = true)
    (ho3 : 3 ≤ o.shape.length) (ho5 : o.shape.length ≤ 5) (hopos : ∀ x ∈ o.shape, 0 < x) (hsd : sd < o.shape.length)
    (hsh : o.shp (some sd) = { e.shp with S := 1 }) (hvo : ∀ c ∈ validClasses o.shp, c ∈ validClasses e.shp)
    (hbase : ∀ d, basePresent e.shp d = true → d ∈ validClasses e.shp)
    (ks other : KeyState α) (hks : ∀ c v, ks = some (c, v) → c ∈ validClasses e.shp ∧ mult e.shp c ≠ 0)
    (hother : ∀ c v, other = some (c, v) → c ∈ validClasses o.shp ∧ mult o.shp c ≠ 0)
    (hnn : ¬ (ks = none ∧ other = none))
    (valid : List Cls) (oc : Content κ α) (k : κ) (hov : Content.valuesAndClass valid oc k = other) :
    keyStep null e.shape (e.sliceDim.map fun d => e.shape.getD d 1) (some sd) (contentOf' e) o.shape
        (o.sliceDim.map fun d => o.shape.getD d 1) valid oc sd (otherClass other) k (toDict ks) =
      errV ((stepSliceK null e.shp ks other).map toDict) :=
  Src.keyStep_slice_eq null e o sd h3 h5 hpos hsl hosl ho3 ho5 hopos hsd hsh hvo hbase ks other hks hother hnn valid oc k hov

/-- **what `_insert` does to one key along the time (3) or vector (4) axis is the model's `stepSampleK`** -/
theorem insert_key_step_sample_is_model (null : α) (e o : DExt κ α) (sd : Nat) (isTime : Bool)
    (h3 : 3 ≤ e.shape.length) (h5 : e.shape.length ≤ 5) (hpos : ∀ x ∈ e.shape, 0 < x) (hsl : e.sliceDim = some sd) (hsd3 : sd < 3)
    (ho3 : 3 ≤ o.shape.length) (ho5 : o.shape.length ≤ 5) (hopos : ∀ x ∈ o.shape, 0 < x) (hsd : sd < o.shape.length)
    (hoT : e.shape.length = 5 → 3 < o.shape.length)
    (hsamp : (if isTime then tsamples else vsamples) ∈ validClasses e.shp)
    (hvo : ∀ c ∈ validClasses o.shp, c ∈ validClasses e.shp)
    (hbase : ∀ d, basePresent e.shp d = true → d ∈ validClasses e.shp)
    (ks other : KeyState α) (hks : ∀ c v, ks = some (c, v) → c ∈ validClasses e.shp ∧ mult e.shp c ≠ 0)
    (hother : ∀ c v, other = some (c, v) → c ∈ validClasses o.shp ∧ mult o.shp c ≠ 0)
    (hnn : ¬ (ks = none ∧ other = none))
    (valid : List Cls) (oc : Content κ α) (k : κ) (hov : Content.valuesAndClass valid oc k = other) :
    keyStep null e.shape (e.sliceDim.map fun d => e.shape.getD d 1) (some sd) (contentOf' e) o.shape
        (o.sliceDim.map fun d => o.shape.getD d 1) valid oc (if isTime then 3 else 4) (otherClass other) k (toDict ks) =
      errV ((stepSampleK null isTime e.shp (o.shp (some sd)) ks other).map toDict) :=
  Src.keyStep_sample_eq null e o sd isTime h3 h5 hpos hsl hsd3 ho3 ho5 hopos hsd hoT hsamp hvo hbase ks other hks hother hnn valid oc k hov

/-- **the `try` block of `_insert` ends normally when every visited key can be reclassified and inserted** — it raises only if
    `keyStep` raises for some visited key on the entry that key has at the start -/
theorem insert_try_ends_normally_when_steps_do (null : α) (ss : List Nat) (sn sd : Option Nat) (bases : List String) (kc0 : KContent κ α)
    (os : List Nat) (on : Option Nat) (oc : Content κ α) (dim : Nat) (valid sv : List Cls) (oks : List κ)
    (hv : Py.get_valid_classes os = .ok valid) (hsv : Py.get_valid_classes ss = .ok sv) (hk : Py.get_keys os oc = .ok oks)
    (hnd : (valid.flatMap (roundKeys oc ((KContent.keys sv kc0).filter fun key => !oks.contains key))).Nodup)
    (hstep : ∀ c k, c ∈ valid → k ∈ roundKeys oc ((KContent.keys sv kc0).filter fun key => !oks.contains key) c →
        ∃ a, keyStep null ss sn sd bases os on valid oc dim c k (kc0.get k) = .ok a) :
    ∃ kc', Py.insert_try null ss sn sd bases kc0 os on oc dim = .ok kc' :=
  Src.insert_try_ok null ss sn sd bases kc0 os on oc dim valid sv oks hv hsv hk hnd hstep

/-- the translator translated every function of this group (dcmmeta.py: _insert as a whole) -/
theorem translator_complete_insertall : Gen.codeMissing_insertall = [] := rfl

end Source
