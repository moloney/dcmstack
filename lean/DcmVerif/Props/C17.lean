import DcmVerif.Props.Source_orient
import DcmVerif.Proofs.Orient
/-! Property theorems for C17. Statements only; proofs are by reference to `Proofs/`. -/
set_option autoImplicit false

namespace C17

open Orient

/-- **C17, code validity, for every string:** the voxel_order check passes iff the upper-cased
    string is one of the 48 codes (a permutation of one letter per anatomical axis) -/
theorem code_valid_iff (s : List Char) : checkCode s = true ↔ s.map upperC ∈ codes48 :=
  Orient.checkCode_iff s

theorem transform_reaches_code (s e : Ornt) (hs : s ∈ all48) (he : e ∈ all48) :
    ∃ t, orntTransform s e = some t ∧ applyTo s t = e :=
  Orient.transform_reaches_code s e hs he

/-- **C17, voxel / transform identity:** for each of the 48 transforms, every shape and every output
    index in range, the returned matrix maps the output index to the input index whose voxel
    `apply_orientation` put there, and that index is in range. -/
theorem reorder_voxel_transform (t : List (Nat × Bool)) (ht : t ∈ allT) (a b c x y z : Nat)
    (hx : x < (outShape t [a, b, c]).getD 0 0) (hy : y < (outShape t [a, b, c]).getD 1 0)
    (hz : z < (outShape t [a, b, c]).getD 2 0) :
    matVec (invOrntAff t [a, b, c]) [x, y, z] = (srcIndex t [a, b, c] [x, y, z]).map Int.ofNat ∧
    (srcIndex t [a, b, c] [x, y, z]).getD 0 0 < a ∧
    (srcIndex t [a, b, c] [x, y, z]).getD 1 0 < b ∧
    (srcIndex t [a, b, c] [x, y, z]).getD 2 0 < c :=
  Orient.matVec_eq_srcIndex (Orient.allT_perm t ht) a b c x y z hx hy hz

/-- the output shape is the permuted input shape -/
theorem reorder_shape_perm (t : List (Nat × Bool)) (ht : t ∈ allT) (a b c : Nat) :
    (outShape t [a, b, c]).Perm [a, b, c] :=
  Orient.outShape_perm (Orient.allT_perm t ht) rfl

/-- the orientation `io_orientation` reads from `affine · T` is the start orientation pushed
    through the transform -/
theorem reorder_affine_orientation (cols : List Col) (t : List (Nat × Bool)) :
    ioOrientation (mulCols cols t) = applyTo (ioOrientation cols) t :=
  Orient.ioOrientation_mulCols cols t

/-- **C17, decision logic:** a valid code, an array of ≥ 3 dimensions, a 4×4 axis-aligned affine ⇒
    `reorder_voxels` succeeds, and the closest anatomical directions of the output axes spell the
    requested code -/
theorem reorder_spells_code (nd : Nat) (cols : List Col) (code : List Char)
    (hnd : 3 ≤ nd) (hcols : ioOrientation cols ∈ all48) (hcode : checkCode code = true) :
    ∃ t newO, reorder nd true cols code = .ok t ∧
      axcodes2ornt (code.map upperC) = some newO ∧
      ioOrientation (mulCols cols t) = newO :=
  Orient.reorder_spells_code nd cols code hnd hcols hcode

/-- **C17, refusals:** an invalid code, an array under 3-D or a non-4×4 affine raise ValueError -/
theorem reorder_refuses (nd : Nat) (affOk : Bool) (cols : List Col) (code : List Char)
    (h : code.map upperC ∉ codes48 ∨ nd < 3 ∨ affOk = false) :
    reorder nd affOk cols code = .valueError :=
  Orient.reorder_refuses nd affOk cols code h

end C17
