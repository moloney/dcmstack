import DcmVerif.Proofs.TimeGeneral
/-! Property theorems for C20_time. Statements only; proofs are by reference to `Proofs/`. -/
set_option autoImplicit false

namespace C20
open Tm Phx

/-- **colons are ignored:** a TM string and the same string with its colons removed convert alike,
    wherever the colons are -/
theorem tm_colons_ignored (s : Str) : toSec s = toSec (dropColons s) :=
  Tm.toSec_colons s

theorem tm_same_digits (s₁ s₂ : Str) (h : dropColons s₁ = dropColons s₂) : toSec s₁ = toSec s₂ :=
  Tm.toSec_same_digits s₁ s₂ h

/-- kernel-evaluated instances over every TM shape of the property: 2, 4, 6 digits, fraction of
    1–6 digits, with and without colons: `hh·3600 + mm·60 + ss.ffffff` -/
theorem tm_instances :
    (toSec "07".toList).micros = some (7 * 3600 * 1000000) ∧
    (toSec "0730".toList).micros = some ((7 * 3600 + 30 * 60) * 1000000) ∧
    (toSec "073015".toList).micros = some ((7 * 3600 + 30 * 60 + 15) * 1000000) ∧
    (toSec "073015.5".toList).micros = some ((7 * 3600 + 30 * 60 + 15) * 1000000 + 500000) ∧
    (toSec "235959.999999".toList).micros = some ((23 * 3600 + 59 * 60 + 59) * 1000000 + 999999) ∧
    (toSec "07:30:15.250000".toList).micros = some ((7 * 3600 + 30 * 60 + 15) * 1000000 + 250000) ∧
    (toSec "07:30".toList).micros = some ((7 * 3600 + 30 * 60) * 1000000) ∧
    (toSec "000000.000001".toList).micros = some 1 ∧
    (toSec "120000".toList).micros = some (12 * 3600 * 1000000) :=
  Tm.tm_instances 

/-- malformed TM strings raise ValueError -/
theorem tm_malformed :
    toSec "".toList = .valueError ∧ toSec "ab".toList = .valueError ∧
    toSec "12x4".toList = .valueError ∧ toSec "1234yy".toList = .valueError :=
  Tm.tm_malformed 

/-- hours only: any two digits -/
theorem tm_two_digits (a b : Nat) (ha : a < 10) (hb : b < 10) :
    toSec [Char.ofNat (48 + a), Char.ofNat (48 + b)] = .ok ((10 * a + b : Nat) * 3600) none :=
  Tm.two_digits a b ha hb

/-- hours and minutes: any four digits -/
theorem tm_four_digits (a b c d : Nat) (ha : a < 10) (hb : b < 10) (hc : c < 10) (hd : d < 10) :
    toSec [Char.ofNat (48 + a), Char.ofNat (48 + b), Char.ofNat (48 + c), Char.ofNat (48 + d)] =
      .ok ((10 * a + b : Nat) * 3600 + (10 * c + d : Nat) * 60) none :=
  Tm.four_digits a b c d ha hb hc hd

/-- the two Python implementations are the same function: their ASTs are equal modulo docstring
    (computed from the current source by the translator) -/
theorem time_fns_identical : Gen.timeFnBodiesIdentical = true :=
  Tm.time_fns_identical 

/-- **`hhmmss` and `hhmmss.f…` for any number of second and fraction digits:** whole seconds from
    the two leading pairs of digits, the rest the exact decimal `digits(ss ++ ff) / 10^|ff|`
    (with `tm_colons_ignored`, also for the colon-separated spellings) -/
theorem tm_six_plus (h1 h2 m1 m2 : Char) (ss ff : Str)
    (d1 : isDigit h1 = true) (d2 : isDigit h2 = true) (d3 : isDigit m1 = true) (d4 : isDigit m2 = true)
    (hss : ∀ c ∈ ss, isDigit c = true) (hne : ss ≠ []) (hff : ∀ c ∈ ff, isDigit c = true) :
    toSec (h1 :: h2 :: m1 :: m2 :: (ss ++ '.' :: ff)) =
      .ok (((digitVal h1 * 10 + digitVal h2 : Nat) : Int) * 3600 +
           ((digitVal m1 * 10 + digitVal m2 : Nat) : Int) * 60)
          (some ⟨false, digitsVal 0 (ss ++ ff), ff.length⟩) ∧
    toSec (h1 :: h2 :: m1 :: m2 :: ss) =
      .ok (((digitVal h1 * 10 + digitVal h2 : Nat) : Int) * 3600 +
           ((digitVal m1 * 10 + digitVal m2 : Nat) : Int) * 60)
          (some ⟨false, digitsVal 0 ss, 0⟩) :=
  Tm.six_plus h1 h2 m1 m2 ss ff d1 d2 d3 d4 hss hne hff

end C20
