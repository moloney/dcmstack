import DcmVerif.Generated.Code_data
import DcmVerif.Proofs.Stack
/-! the `file_idx` expressions and the trimming block of `DicomStack.get_data` as translated from dcmstack.py are the model's `fileIdx` and `stackTrim`. -/
set_option autoImplicit false

namespace Src
variable {α κ : Type}

/-- **the file index `get_data` computes is the model's `fileIdx`** -/
theorem file_idx_eq (rows cols S T V v t s : Nat) :
    Py.file_idx_slice [rows, cols, S, T, V] v t s = Stk.fileIdx S T s t v := by
  simp [Py.file_idx_slice, Stk.fileIdx, Nat.mul_comm]

/-- one file per volume: the index is the volume number -/
theorem file_idx_volume_eq (rows cols S T V v t : Nat) :
    Py.file_idx_volume [rows, cols, S, T, V] v t = v * T + t := by
  simp [Py.file_idx_volume]

/-- **the trimming block of `get_data` as written in dcmstack.py is the model's `stackTrim`** -/
theorem get_data_trim_eq (a : Wrap.Arr α) (rows cols S T V : Nat) :
    Py.get_data_trim a [rows, cols, S, T, V] = .ok (Wrap.stackTrim a T V) := by
  by_cases hV : V = 1 <;> by_cases hT : T = 1 <;>
    simp [Py.get_data_trim, Wrap.stackTrim, hV, hT, pure, Except.pure]

end Src
