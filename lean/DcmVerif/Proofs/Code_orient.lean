import DcmVerif.Generated.Code_orient
/-! The `voxel_order` checks of `reorder_voxels` as translated from dcmstack.py are the model's `Orient.checkCode`. -/
set_option autoImplicit false

namespace Src
open Orient

theorem delWhileIter_eq (ch : Char) : ∀ (l : List (List Char)),
    pyDelWhileIter (fun axis => decide (ch ∈ axis)) l = delWhileIter ch l
  | [] => rfl
  | [a] => by simp [pyDelWhileIter, delWhileIter]
  | a :: b :: rest => by
    simp only [pyDelWhileIter, delWhileIter, decide_eq_true_eq]
    by_cases h : ch ∈ a
    · simp [h, delWhileIter_eq ch rest]
    · simp [h, delWhileIter_eq ch (b :: rest)]

theorem check_loop (f : Char → List (List Char) → Except PyErr (ForInStep (List (List Char))))
    (hf : ∀ c r, f c r = if c ∈ ['L', 'R', 'A', 'P', 'S', 'I'] then .ok (ForInStep.yield (delWhileIter c r))
      else .error PyErr.valueError) (cs : List Char) : ∀ (acc : List (List Char)),
    forIn (m := Except PyErr) cs acc f =
      (match checkLoop cs acc with | some left => .ok left | none => .error PyErr.valueError) := by
  induction cs with
  | nil => intro acc; rfl
  | cons c rest ih =>
    intro acc
    rw [List.forIn_cons, hf]
    simp only [checkLoop]
    split
    · exact ih _
    · rfl

/-- **the `voxel_order` checks of `reorder_voxels` as written in dcmstack.py pass exactly when the model's `checkCode` holds**
    (ValueError otherwise), for every string -/
theorem check_voxel_order_eq (s : List Char) :
    Py.check_voxel_order s = if checkCode s then .ok () else .error PyErr.valueError := by
  unfold Py.check_voxel_order checkCode
  by_cases hl : (s.map upperC).length = 3
  · simp only [if_false, hl, ne_eq, not_true_eq_false]
    rw [check_loop _ ?hf]
    case hf =>
      intro c r
      simp only [List.contains_eq_mem, delWhileIter_eq, Bool.not_eq_true', decide_eq_false_iff_not, ite_not]
      split <;> rfl
    generalize checkLoop (s.map upperC) _ = left
    -- the loop raised, or named every axis, or left one
    rcases left with _ | _ | _ <;> rfl
  · have hl' : ((s.map upperC).length != 3) = true := by simpa using hl
    simp only [hl', if_true, hl, ne_eq, not_false_eq_true]
    rfl

/-! the translated checks compute (tests, not theorems) -/
example : Py.check_voxel_order ['l', 'p', 's'] = .ok () := by rfl
example : Py.check_voxel_order ['L', 'R', 'S'] = .error PyErr.valueError := by rfl
example : Py.check_voxel_order ['L', 'A'] = .error PyErr.valueError := by rfl
example : Py.check_voxel_order ['L', 'A', 'X'] = .error PyErr.valueError := by rfl

end Src
