import DcmVerif.Generated.Code_insert
import DcmVerif.Proofs.Code_values
import DcmVerif.Proofs.KeyDictLemmas
import DcmVerif.Proofs.Key.Den
/-! The per-key dictionary edits of merges (`_change_class`, `_insert_slice`, `_insert_non_slice`, `_insert_sample`) as translated
from dcmmeta.py are the per-key model's (`changeClassK`, `insertSliceK`, `insertNonSliceK`, `insertSampleK`). -/
set_option autoImplicit false
open Cls

namespace Src
variable {α κ : Type}

/-- **`_change_class` as written in dcmmeta.py is the model's `changeClassK`** on the dictionaries of one key (absent, or held by
    one class valid for the shape): the values are written under the new class and the key is deleted from the old one -/
theorem change_class_eq [DecidableEq α] (null : α) (e : DExt κ α)
    (h3 : 3 ≤ e.shape.length) (h5 : e.shape.length ≤ 5) (hpos : ∀ x ∈ e.shape, 0 < x)
    (ks : KeyState α) (hks : ∀ c v, ks = some (c, v) → c ∈ validClasses e.shp ∧ mult e.shp c ≠ 0) (new : Cls)
    (hn : e.sliceDim.isSome = true ∨ perSlice new = false) :
    Py.change_class null e.shape (e.sliceDim.map fun d => e.shape.getD d 1) (toDict ks) new =
      errV ((changeClassK null (e.shp none) ks new).map toDict) := by
  have hgc := get_changed_class_none_eq null e h3 h5 hpos ks hks new hn
  rw [Py.change_class, get_valid_classes_eq e none (by omega) h5]
  rcases ks with _ | ⟨c, v⟩
  · simp only [toDict, valuesAndClass_nil, valuesOf, Option.map_none, ok_bind'] at hgc ⊢
    rw [hgc, changeClassK]
    cases getChangedK null e.shp none new <;> rfl
  · simp only [toDict, valuesAndClass_single _ c v (hks c v rfl).1, valuesOf, Option.map_some, ok_bind'] at hgc ⊢
    rw [hgc, changeClassK_eq]
    by_cases hcn : c = new
    · subst hcn
      rw [getChangedK_same, beq_self_eq_true, if_pos rfl]
      rfl
    · simp only [beq_iff_eq, Option.some.injEq, hcn, if_false]
      cases getChangedK null e.shp (some (c, v)) new
      · rfl
      · simp only [errV_ok, ok_bind', bind_pure, set_del_single hcn]
        rfl

theorem change_class_some [DecidableEq α] (null : α) (e : DExt κ α)
    (h3 : 3 ≤ e.shape.length) (h5 : e.shape.length ≤ 5) (hpos : ∀ x ∈ e.shape, 0 < x)
    (c : Cls) (lv : List α) (hc : c ∈ validClasses e.shp) (hcm : mult e.shp c ≠ 0) (d : Cls)
    (hn : e.sliceDim.isSome = true ∨ perSlice d = false) :
    Py.change_class null e.shape (e.sliceDim.map fun d => e.shape.getD d 1) [(c, lv)] d =
      errV (getChangedK null e.shp (some (c, lv)) d) >>= fun v => .ok [(d, v)] := by
  rw [← show toDict (some (c, lv)) = [(c, lv)] from rfl,
    change_class_eq null e h3 h5 hpos _ (fun _ _ h => by cases h; exact ⟨hc, hcm⟩) d hn, changeClassK_eq]
  cases getChangedK null e.shp (some (c, lv)) d <;> rfl

/-! ### the insertions

Where `self` and `other` are both widened to a class `d`, the model has one `match` on the pair of results; after
`changeClassK_eq` both sides are decided by what the two `getChangedK` return, whichever the translated code asks for first. -/

/-- **`_insert_non_slice` as written in dcmmeta.py is the model's `insertNonSliceK`**: the key stays only if `other`, widened to
    the class `self` holds it under, has the same values -/
theorem insert_non_slice_eq [DecidableEq α] (null : α) (e o : DExt κ α) (sd : Nat)
    (h3 : 3 ≤ e.shape.length) (h5 : e.shape.length ≤ 5)
    (ho3 : 3 ≤ o.shape.length) (ho5 : o.shape.length ≤ 5) (hopos : ∀ x ∈ o.shape, 0 < x) (hsd : sd < o.shape.length)
    (c : Cls) (lv : List α) (hc : c ∈ validClasses e.shp)
    (other : KeyState α) (hother : ∀ c v, other = some (c, v) → c ∈ validClasses o.shp ∧ mult o.shp c ≠ 0)
    (content : List String) :
    Py.insert_non_slice null e.shape (e.sliceDim.map fun d => e.shape.getD d 1) (toDict (some (c, lv))) (some sd) content
        o.shape (o.sliceDim.map fun d => o.shape.getD d 1) (valuesOf null other) (other.map (·.1)) =
      errV ((insertNonSliceK null (o.shp (some sd)) (some (c, lv)) other).map toDict) := by
  simp only [Py.insert_non_slice, insertNonSliceK, get_valid_classes_eq e none (by omega) h5, toDict,
    valuesAndClass_single _ c lv hc, get_changed_class_eq null o sd ho3 ho5 hopos hsd other hother, ok_bind']
  cases getChangedK null (o.shp (some sd)) other c with
  | error _ => rfl
  | ok ov =>
    by_cases hl : lv = ov <;> simp only [hl, errV_ok, ok_bind', bne_iff_ne, ne_eq, ite_not, if_true, if_false, del_single] <;> rfl

/-- the base names present in `_content` -/
def contentOf' (e : DExt κ α) : List String :=
  ["global"] ++ (if e.hasTime then ["time"] else []) ++ (if e.hasVector then ["vector"] else [])

theorem content_contains' (e : DExt κ α) (d : Cls) : (contentOf' e).contains d.base = basePresent e.shp d :=
  bases_contains e none d

/-- **`_insert_slice` as written in dcmmeta.py is the model's `insertSliceK`** on the dictionaries of one key: constants that differ
    become per-slice values of the first base present (time, vector, global), time slices are appended, everything else goes
    through global slices with the new slice interleaved into every volume -/
theorem insert_slice_eq [DecidableEq α] (null : α) (e o : DExt κ α) (sd : Nat)
    (h3 : 3 ≤ e.shape.length) (h5 : e.shape.length ≤ 5) (hpos : ∀ x ∈ e.shape, 0 < x)
    (hsl : e.sliceDim.isSome = true) (hosl : o.sliceDim.isSome = true)
    (hbase : ∀ d, basePresent e.shp d = true → d ∈ validClasses e.shp)
    (ho3 : 3 ≤ o.shape.length) (ho5 : o.shape.length ≤ 5) (hopos : ∀ x ∈ o.shape, 0 < x) (hsd : sd < o.shape.length)
    (c : Cls) (lv : List α) (hc : c ∈ validClasses e.shp) (hcm : mult e.shp c ≠ 0)
    (other : KeyState α) (hother : ∀ c v, other = some (c, v) → c ∈ validClasses o.shp ∧ mult o.shp c ≠ 0) :
    Py.insert_slice null e.shape (e.sliceDim.map fun d => e.shape.getD d 1) (toDict (some (c, lv))) (some sd) (contentOf' e)
        o.shape (o.sliceDim.map fun d => o.shape.getD d 1) (valuesOf null other) (other.map (·.1)) =
      errV ((insertSliceK null e.shp (o.shp (some sd)) (some (c, lv)) other).map toDict) := by
  have hcc := fun d => change_class_some null e h3 h5 hpos c lv hc hcm d (.inl hsl)
  simp only [Py.insert_slice, insertSliceK, get_valid_classes_eq e none (by omega) h5, toDict,
    valuesAndClass_single _ c lv hc, get_changed_class_eq null o sd ho3 ho5 hopos hsd other hother, ok_bind',
    (shpOf_shp e none).pyGet hsl, (shpOf_shp o (some sd)).pyGet hosl, (shpOf_shp e none).forIn_prod h5, Nat.one_mul, forIn_intlv]
  cases getChangedK null (o.shp (some sd)) other c with
  | error _ => rfl
  | ok ov =>
  simp only [errV_ok, ok_bind']
  by_cases hc1 : c = gconst
  · subst hc1
    by_cases hl : lv = ov
    · simp only [hl, bne_self_eq_false, beq_self_eq_true, ↓reduceIte, Bool.false_eq_true]
      rfl
    · -- the loop over the bases stops at the first one present: `dest` of the model
      have hct : (contentOf' e).contains "time" = e.hasTime := content_contains' e tslices
      have hcv : (contentOf' e).contains "vector" = e.hasVector := content_contains' e vslices
      have hcg : (contentOf' e).contains "global" = true := content_contains' e gslices
      have hbt : Cls.ofBaseSub "time" "slices" = tslices := rfl
      have hbv : Cls.ofBaseSub "vector" "slices" = vslices := rfl
      have hbg : Cls.ofBaseSub "global" "slices" = gslices := rfl
      have hT : e.shp.hasTime = e.hasTime := rfl
      have hV : e.shp.hasVector = e.hasVector := rfl
      simp only [hl, bne_iff_ne, ne_eq, not_false_eq_true, beq_self_eq_true, ↓reduceIte, List.forIn_cons, List.forIn_nil,
        hct, hcv, hcg, hT, hV, changeClassK_eq, hbt, hbv, hbg]
      cases ht : e.hasTime
      · cases hv : e.hasVector
        · simp only [Bool.false_eq_true, ↓reduceIte, pure_bind, hcc, bind_assoc, ok_bind',
            valuesAndClass_single _ _ _ (hbase gslices rfl), set_single]
          cases getChangedK null e.shp (some (gconst, lv)) gslices <;>
            cases getChangedK null (o.shp (some sd)) other gslices <;> rfl
        · simp only [Bool.false_eq_true, ↓reduceIte, pure_bind, hcc, bind_assoc, ok_bind',
            valuesAndClass_single _ _ _ (hbase vslices hv), set_single]
          cases getChangedK null e.shp (some (gconst, lv)) vslices <;>
            cases getChangedK null (o.shp (some sd)) other vslices <;> rfl
      · simp only [↓reduceIte, pure_bind, hcc, bind_assoc, ok_bind', valuesAndClass_single _ _ _ (hbase tslices ht), set_single]
        cases getChangedK null e.shp (some (gconst, lv)) tslices <;>
          cases getChangedK null (o.shp (some sd)) other tslices <;> rfl
  by_cases hc2 : c = tslices
  · subst hc2
    simp only [hc1, ↓reduceIte, beq_self_eq_true, set_single, beq_iff_eq]
    rfl
  by_cases hc3 : c = gslices
  · subst hc3
    simp only [hc1, hc2, ↓reduceIte, set_single, beq_iff_eq, bne_self_eq_false, Bool.false_eq_true]
    rfl
  · simp only [hc1, hc2, hc3, ↓reduceIte, beq_iff_eq, bne_iff_ne, ne_eq, not_false_eq_true, hcc, bind_assoc, ok_bind',
      get_single, set_single, changeClassK_eq]
    cases getChangedK null e.shp (some (c, lv)) gslices <;>
      cases getChangedK null (o.shp (some sd)) other gslices <;> rfl

/-- **`_insert_sample` as written in dcmmeta.py is the model's `insertSampleK`** on the dictionaries of one key: constants that
    differ become samples of the merged axis, samples are appended, everything else goes through global slices — interleaved per
    vector component in a time merge of a five-axis extension, appended otherwise -/
theorem insert_sample_eq [DecidableEq α] (null : α) (e o : DExt κ α) (sd : Nat) (isTime : Bool)
    (h3 : 3 ≤ e.shape.length) (h5 : e.shape.length ≤ 5) (hpos : ∀ x ∈ e.shape, 0 < x)
    (hsl : e.sliceDim.isSome = true)
    (ho3 : 3 ≤ o.shape.length) (ho5 : o.shape.length ≤ 5) (hopos : ∀ x ∈ o.shape, 0 < x) (hsd : sd < o.shape.length)
    (hoT : e.shape.length = 5 → 3 < o.shape.length)
    (hsamp : (if isTime then tsamples else vsamples) ∈ validClasses e.shp)
    (c : Cls) (lv : List α) (hc : c ∈ validClasses e.shp) (hcm : mult e.shp c ≠ 0)
    (other : KeyState α) (hother : ∀ c v, other = some (c, v) → c ∈ validClasses o.shp ∧ mult o.shp c ≠ 0)
    (content : List String) :
    Py.insert_sample null e.shape (e.sliceDim.map fun d => e.shape.getD d 1) (toDict (some (c, lv))) (some sd) content
        o.shape (o.sliceDim.map fun d => o.shape.getD d 1) (valuesOf null other) (other.map (·.1))
        (if isTime then "time" else "vector") =
      errV ((insertSampleK null isTime e.shp (o.shp (some sd)) (some (c, lv)) other).map toDict) := by
  have hcc := fun d => change_class_some null e h3 h5 hpos c lv hc hcm d
  have hbs : Cls.ofBaseSub (if isTime then "time" else "vector") "samples" = if isTime then tsamples else vsamples := by
    cases isTime <;> rfl
  have hbt : ((if isTime then "time" else "vector") == "time") = isTime := by cases isTime <;> rfl
  simp only [Py.insert_sample, insertSampleK, get_valid_classes_eq e none (by omega) h5, toDict,
    valuesAndClass_single _ c lv hc, get_changed_class_eq null o sd ho3 ho5 hopos hsd other hother, ok_bind',
    (shpOf_shp e none).pyGet hsl, forIn_intlv, hbs, hbt]
  cases getChangedK null (o.shp (some sd)) other c with
  | error _ => rfl
  | ok ov =>
  simp only [errV_ok, ok_bind']
  by_cases hc1 : c = gconst
  · subst hc1
    by_cases hl : lv = ov
    · simp only [hl, bne_self_eq_false, beq_self_eq_true, ↓reduceIte, Bool.false_eq_true]
      rfl
    · have hns : perSlice (if isTime then tsamples else vsamples) = false := by cases isTime <;> rfl
      simp only [hl, bne_iff_ne, ne_eq, not_false_eq_true, beq_self_eq_true, ↓reduceIte, hcc _ (.inr hns), bind_assoc, ok_bind',
        valuesAndClass_single _ _ _ hsamp, set_single, changeClassK_eq]
      cases getChangedK null e.shp (some (gconst, lv)) (if isTime then tsamples else vsamples) <;>
        cases getChangedK null (o.shp (some sd)) other (if isTime then tsamples else vsamples) <;> rfl
  by_cases hc2 : c = if isTime then tsamples else vsamples
  · simp only [hc1, ← hc2, ↓reduceIte, beq_self_eq_true, set_single, beq_iff_eq]
    rfl
  -- through global slices; a time merge of a five-axis extension reads `shape[3]`, `shape[4]` and `other.shape[3]`
  have hsh : (isTime && e.shape.length == 5) = true →
      e.shape[3]! = e.shp.T ∧ e.shape[4]! = e.shp.V ∧ o.shape[3]! = (o.shp (some sd)).T := fun h => by
    have h5' : e.shape.length = 5 := by simp only [Bool.and_eq_true, beq_iff_eq] at h; exact h.2
    exact ⟨(shpOf_shp e none).getT (by omega), (shpOf_shp e none).getV (by omega), (shpOf_shp o (some sd)).getT (hoT h5')⟩
  have hnd : e.shp.nd = e.shape.length := rfl
  simp only [hc1, hc2, ↓reduceIte, beq_iff_eq, bne_iff_ne, ne_eq, hcc gslices (.inl hsl), bind_assoc, ok_bind',
    valuesAndClass_single _ _ _ (gslices_valid e.shp), set_single, changeClassK_eq, hnd]
  by_cases hcond : (isTime && e.shape.length == 5) = true <;> by_cases hc3 : c = gslices <;>
    simp only [hcond, hsh, hc3, not_true_eq_false, not_false_eq_true, ↓reduceIte, set_single]
  · rfl
  · cases getChangedK null e.shp (some (c, lv)) gslices <;> cases getChangedK null (o.shp (some sd)) other gslices <;> rfl
  · rfl
  · cases getChangedK null e.shp (some (c, lv)) gslices <;> cases getChangedK null (o.shp (some sd)) other gslices <;> rfl

/-- **the reclassification `_insert` applies to a key before inserting, as written in dcmmeta.py, is the model's `reclassifyK`** -/
theorem reclassify_eq [DecidableEq α] (null : α) (e : DExt κ α)
    (h3 : 3 ≤ e.shape.length) (h5 : e.shape.length ≤ 5) (hpos : ∀ x ∈ e.shape, 0 < x) (hsl : e.sliceDim.isSome = true)
    (ks : KeyState α) (hks : ∀ c v, ks = some (c, v) → c ∈ validClasses e.shp ∧ mult e.shp c ≠ 0) (oc : Cls) :
    Py.reclassify null e.shape (e.sliceDim.map fun d => e.shape.getD d 1) (toDict ks) (contentOf' e) oc =
      errV ((reclassifyK null e.shp ks oc).map toDict) := by
  simp only [Py.reclassify, reclassifyK, get_valid_classes_eq e none (by omega) h5, ok_bind',
    valuesAndClass_toDict fun c v h => (hks c v h).1, fun d => change_class_eq null e h3 h5 hpos ks hks d (.inl hsl),
    ↓content_contains', List.contains_eq_mem, bne_iff_ne, ne_eq, decide_eq_true_eq, ite_not, bind_pure]
  rcases ks with _ | ⟨c, v⟩
  · simp only [Option.map_none, mem_preserving_none, if_true, reduceCtorEq, if_false]
  · simp only [Option.map_some, Option.any_some, Option.some.injEq, decide_eq_true_eq, Bool.not_eq_true',
      decide_eq_false_iff_not, ite_not]
    by_cases h1 : c = oc
    · simp only [h1, if_true]
      rfl
    by_cases h2 : oc ∈ preserving (some c)
    · simp only [h1, h2, if_true, if_false]
    by_cases h3' : c ∈ preserving (some oc)
    · simp only [h1, h2, h3', if_true, if_false]
      rfl
    · simp only [h1, h2, h3', if_false]
      cases (preserving (some c)).find? fun d => basePresent e.shp d && decide (d ∈ preserving (some oc)) <;> rfl

/-- **the insertion `_insert(dim, other)` applies to a key, as written in dcmmeta.py**: `_insert_slice` along the slice axis of
    `self`, else `_insert_non_slice` for another spatial axis, `_insert_sample` for time (3) and vector (4), nothing otherwise —
    the case distinction of the model's `mergeKey` -/
theorem insert_dispatch_eq [DecidableEq α] (null : α) (shape : List Nat) (nsl : Option Nat) (d : KeyDict α) (sd : Option Nat)
    (content : List String) (oshape : List Nat) (onsl : Option Nat) (ovals : List α) (ocls : Option Cls) (dim : Nat) :
    Py.insert_dispatch null shape nsl d sd content oshape onsl ovals ocls dim =
      if some dim = sd then Py.insert_slice null shape nsl d sd content oshape onsl ovals ocls
      else if dim < 3 then Py.insert_non_slice null shape nsl d sd content oshape onsl ovals ocls
      else if dim = 3 then Py.insert_sample null shape nsl d sd content oshape onsl ovals ocls "time"
      else if dim = 4 then Py.insert_sample null shape nsl d sd content oshape onsl ovals ocls "vector"
      else .ok d := by
  simp only [Py.insert_dispatch, beq_iff_eq, decide_eq_true_eq, bind_pure]
  rfl

/-! the translated methods compute (tests, not theorems) -/
example : Py.change_class (0 : Nat) [2, 2, 2, 2] (some 2) [(tsamples, [7, 8])] gslices = .ok [(gslices, [7, 7, 8, 8])] := by rfl
example : Py.insert_slice (0 : Nat) [2, 2, 2, 2] (some 2) [(gslices, [1, 2, 3, 4])] (some 2) ["global", "time"]
    [2, 2, 1, 2] (some 1) [9, 8] (some gslices) = .ok [(gslices, [1, 2, 9, 3, 4, 8])] := by rfl
example : Py.insert_slice (0 : Nat) [2, 2, 2, 2] (some 2) [(gconst, [5])] (some 2) ["global", "time"]
    [2, 2, 1, 2] (some 1) [6] (some gconst) = .ok [(tslices, [5, 5, 6])] := by rfl
example : Py.insert_non_slice (0 : Nat) [2, 2, 2] (some 2) [(gconst, [5])] (some 2) ["global"]
    [2, 2, 2] (some 2) [6] (some gconst) = .ok [] := by rfl
example : Py.insert_sample (0 : Nat) [2, 2, 2, 2] (some 2) [(tsamples, [5, 6])] (some 2) ["global", "time"]
    [2, 2, 2] (some 2) [7] (some gconst) "time" = .ok [(tsamples, [5, 6, 7])] := by rfl

end Src
