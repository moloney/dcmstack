import DcmVerif.Generated.Code_subset
import DcmVerif.Proofs.Code_values
import DcmVerif.Proofs.Code_simplify
import DcmVerif.Proofs.KeyDictLemmas
import DcmVerif.Proofs.Key.Simplify
/-! `_copy_slice` and `_copy_sample` for one key, as translated from dcmmeta.py, are the per-key model of `get_subset`. -/
set_option autoImplicit false
open Cls

namespace Src
variable {α κ : Type}

section
variable [DecidableEq α]

/-- the `_simplify` call of `_copy_slice` / `_copy_sample`: the translated `_simplify`, its recorded edits replayed on the
    one-entry dictionary of the key, is the model's `applySimplify` -/
theorem simplify_apply (null : α) (r : DExt κ α) (h3 : 3 ≤ r.shape.length) (h5 : r.shape.length ≤ 5)
    (hsl : r.sliceDim.isSome = true) (hbase : ∀ d, basePresent r.shp d = true → d ∈ validClasses r.shp)
    (c : Cls) (hc : c ∈ validClasses r.shp) (v : List α) :
    (Py.simplify null r.shape (r.sliceDim.map fun d => r.shape.getD d 1) (contentOf r) v c >>= fun p =>
        KeyDict.applyFx [(c, v)] p.2) =
      errOf ((applySimplify null r.shp (some (c, v))).map toDict) := by
  rw [simplify_eq null r h3 h5 hsl hbase c hc v, applySimplify]
  rcases hs : simplifyK null r.shp c v with er | _ | _ | ⟨d, w⟩
  · rfl
  · rfl
  · simp only [Except.map, errOf, ok_bind', fxOf, KeyDict.applyFx, del_single]
    rfl
  · have hne : c ≠ d := by
      -- a move never goes to the class the key has, which is no entry of its own row in the two tables
      rintro rfl
      have := (simplify_moved_mem null r.shp hs).2
      cases c <;> simp [constTests, repeatTests] at this
    simp only [Except.map, errOf, ok_bind', fxOf, KeyDict.applyFx, set_del_single hne]
    rfl

theorem set_nil (c : Cls) (v : List α) : KeyDict.set ([] : KeyDict α) c v = [(c, v)] := rfl

/-- **`_copy_slice` for one key, as written in dcmmeta.py, is the per-key model of a subset along the slice axis** (`subsetSliceK`):
    destination class `copySliceDest`, values `copySliceVals`, then `_simplify` — whenever the strided subset is not empty (or
    the destination holds no values), as for `copy_slice_vals_eq` -/
theorem copy_slice_eq (null : α) (r : DExt κ α) (h3 : 3 ≤ r.shape.length) (h5 : r.shape.length ≤ 5)
    (hsl : r.sliceDim.isSome = true) (hbase : ∀ d, basePresent r.shp d = true → d ∈ validClasses r.shp)
    (eS : Nat) (c : Cls) (hc : perSlice c = true) (vals : List α) (idx : Nat)
    (hne : (stride eS (vals.drop idx)).length ≠ 0 ∨ mult r.shp (copySliceDest (validClasses r.shp) c) = 0) :
    Py.copy_slice null r.shape (r.sliceDim.map fun d => r.shape.getD d 1) (contentOf r) [] (some eS) c vals idx =
      errOf ((applySimplify null r.shp
        (some (copySliceDest (validClasses r.shp) c,
          copySliceVals eS (mult r.shp (copySliceDest (validClasses r.shp) c)) idx vals))).map toDict) := by
  have hg := gconst_valid r.shp
  unfold Py.copy_slice
  rw [get_valid_classes_eq r none (by omega) h5, ok_bind']
  extract_lets g empty rest
  -- the statements after the choice of the destination class `d`
  have hrest : ∀ d, d ∈ validClasses r.shp → (stride eS (vals.drop idx)).length ≠ 0 ∨ mult r.shp d = 0 →
      rest () d = errOf ((applySimplify null r.shp (some (d, copySliceVals eS (mult r.shp d) idx vals))).map toDict) := by
    intro d hd hne
    simp only [rest, empty, get_multiplicity_of (shpOf_shp r none) h3 h5, if_pos hd, ok_bind', pyGet, pyStep_eq, set_nil,
      valuesAndClass_single _ _ _ hd, bind_pure, simplify_apply null r h3 h5 hsl hbase _ hd,
      forIn_yield (fun (_ : Nat) r => r ++ stride eS (vals.drop idx)), foldl_range_tile, List.nil_append, copySliceVals,
      decide_eq_true_eq]
    split
    · next hlt =>
      have h0 : (stride eS (vals.drop idx)).length ≠ 0 := by omega
      simp only [pyFloorDiv, beq_iff_eq, h0, if_false, ok_bind']
    · rfl
  -- the destination class: the first valid one in the list the code goes through for the base of `c` (`exact` evaluates
  -- the tests on that base)
  cases c <;> simp only [perSlice, reduceCtorEq] at hc
  · rw [find_dest_global _ hg]
    exact hrest _ (by simpa using List.find?_some (find_dest_global _ hg)) hne
  · exact hrest gconst hg hne
  · rw [find_dest_vector _ hg]
    exact hrest _ (by simpa using List.find?_some (find_dest_vector _ hg)) hne

/-- what `get_subset` along the time / vector axis stores for one key (`_copy_sample`, then `_simplify` where the code calls it) -/
def sampleSubsetK (null : α) (sh rs : Shp) (isTime : Bool) (idx : Nat) (c : Cls) (vals : List α) : Except Err (KeyState α) :=
  let out := copySampleK sh rs isTime idx c vals
  if out.2.2 then applySimplify null rs (some (out.1, out.2.1)) else .ok (some (out.1, out.2.1))

section
-- what evaluates the tests of `_copy_sample` and of `copySampleK` on a given class; `simp` must not put the `getD` inside
-- `n_slices` into a normal form of its own, or `simplify_apply` does not apply
attribute [local simp] copySampleK Cls.base Cls.sub preserving valuesAndClass_single ok_bind'
attribute [-simp] List.getD_eq_getElem?_getD

/-- **`_copy_sample` for one key, as written in dcmmeta.py, is the per-key model of a subset along the time / vector axis**
    (`copySampleK`, followed by `_simplify` exactly where the model says so), for an index inside the values and a destination
    class the result extension has -/
theorem copy_sample_eq (null : α) (e r : DExt κ α) (isTime : Bool)
    (he4 : 4 ≤ e.shape.length) (he5 : e.shape.length ≤ 5) (hev : isTime = false → e.shape.length = 5)
    (hesl : e.sliceDim.isSome = true)
    (h3 : 3 ≤ r.shape.length) (h5 : r.shape.length ≤ 5)
    (hsl : r.sliceDim.isSome = true) (hbase : ∀ d, basePresent r.shp d = true → d ∈ validClasses r.shp)
    (c : Cls) (hcne : c ≠ gconst) (vals : List α) (idx : Nat) (hidx : idx < vals.length)
    (hdest : (copySampleK e.shp r.shp isTime idx c vals).1 ∈ validClasses r.shp) :
    Py.copy_sample null r.shape (r.sliceDim.map fun d => r.shape.getD d 1) (contentOf r) [] e.shape
        (e.sliceDim.map fun d => e.shape.getD d 1) c vals (if isTime then "time" else "vector") idx =
      errOf ((sampleSubsetK null e.shp r.shp isTime idx c vals).map toDict) := by
  have hg := gconst_valid r.shp
  have hgs := gslices_valid r.shp
  have hm1 : mult r.shp gconst = 1 := rfl
  have hpi : pyIndex vals idx = .ok vals[idx] := by simp [pyIndex, hidx]
  have hsa := simplify_apply null r h3 h5 hsl hbase
  simp only [Py.copy_sample, sampleSubsetK, get_valid_classes_eq r none (by omega) h5, ok_bind',
    get_multiplicity_of (shpOf_shp r none) h3 h5, (shpOf_shp e none).pyGet hesl, (shpOf_shp r none).pyGet hsl,
    global_slice_subset_eq e isTime he4 he5 hev, (shpOf_shp e none).getT (by omega), pyStep_eq, set_nil, bind_pure, hpi]
  cases c
  case gconst => exact absurd rfl hcne
  all_goals cases isTime
  case gslices.false | gslices.true =>
    -- global slices: the sample's block(s) of the parent's values, then `_simplify`
    simp [hgs, hsa]
  case tsamples.false =>
    -- time samples, vector split: the block of the vector component, then `_simplify`
    have hts : tsamples ∈ validClasses r.shp := by simpa using hdest
    simp [hts, hsa]
  case tsamples.true =>
    -- time samples, time split: one value per vector component (vector samples) or a single value (constant)
    by_cases hv : vsamples ∈ validClasses r.shp
    · by_cases hm : mult r.shp vsamples = 1 <;> simp [hv, hm, hsa, hidx] <;> rfl
    · simp [hv, hg, hm1, hidx]
      rfl
  case vsamples.false =>
    -- vector samples, vector split: the value of the component, a constant of the piece
    simp [hg, hm1, hidx]
    rfl
  case tslices.true =>
    -- time slices, time split: the per-slice values of the one remaining volume, under the first wider class the result has
    by_cases hv : vslices ∈ validClasses r.shp <;> simp [hv, hgs] <;> rfl
  case vslices.false =>
    -- vector slices, vector split: the values of the one remaining component are per-slice values of the whole piece
    simp [hgs]
    rfl
  case vslices.true =>
    -- vector slices, time split: the slices of the time point, then `_simplify`
    have hvs : vslices ∈ validClasses r.shp := by simpa using hdest
    simp [hvs, hsa]
  case tslices.false | vsamples.true =>
    -- a class of the other axis: unchanged
    simp
    rfl

end

/-! ### `get_subset` for one key of the parent -/

/-- **a subset along the slice axis, as written in dcmmeta.py, is the model's `subsetSliceK`** for one key: non-slice classes are
    copied, per-slice classes go through `_copy_slice` -/
theorem get_subset_key_slice_eq (null : α) (e r : DExt κ α) (dim : Nat) (hed : e.sliceDim = some dim)
    (h3 : 3 ≤ r.shape.length) (h5 : r.shape.length ≤ 5)
    (hsl : r.sliceDim.isSome = true) (hbase : ∀ d, basePresent r.shp d = true → d ∈ validClasses r.shp)
    (hrs : r.shp = sliceSubsetShp e.shp)
    (c : Cls) (vals : List α) (idx : Nat)
    (hne : perSlice c = true → (stride e.shp.S (vals.drop idx)).length ≠ 0 ∨ mult r.shp (copySliceDest (validClasses r.shp) c) = 0) :
    Py.get_subset_key null e.shape (e.sliceDim.map fun d => e.shape.getD d 1) e.sliceDim r.shape
        (r.sliceDim.map fun d => r.shape.getD d 1) (contentOf r) [] c vals dim idx =
      errOf ((subsetSliceK null e.shp (some (c, vals)) idx).map toDict) := by
  have heS : (some dim).map (fun d => e.shape.getD d 1) = some e.shp.S := by simp [DExt.shp, hed]
  simp only [Py.get_subset_key, subsetSliceK, hed, beq_self_eq_true, ↓reduceIte, set_nil, sub_beq_slices, heS, ← hrs, bind_pure]
  by_cases hp : perSlice c = true
  · have hc : (c == gconst) = false := by cases c <;> first | rfl | cases hp
    simp only [hc, hp, ↓reduceIte, Bool.false_eq_true,
      copy_slice_eq null r h3 h5 hsl hbase e.shp.S c hp vals idx (hne hp)]
  · simp only [hp, Bool.false_eq_true, ↓reduceIte, ite_self]
    rfl

/-- **a subset along a spatial axis other than the slice axis copies every key** -/
theorem get_subset_key_spatial_eq (null : α) (e r : DExt κ α) (dim : Nat) (hed : e.sliceDim ≠ some dim) (hd3 : dim < 3)
    (c : Cls) (vals : List α) (idx : Nat) :
    Py.get_subset_key null e.shape (e.sliceDim.map fun d => e.shape.getD d 1) e.sliceDim r.shape
        (r.sliceDim.map fun d => r.shape.getD d 1) (contentOf r) [] c vals dim idx = .ok [(c, vals)] := by
  simp only [Py.get_subset_key, beq_iff_eq, Ne.symm hed, hd3, decide_true, ↓reduceIte, set_nil, ite_self]
  rfl

/-- **a subset along the time (`dim = 3`) or vector (`dim = 4`) axis, as written in dcmmeta.py, is the model's `subsetTimeK` /
    `subsetVecK`** for one key: constants are copied, everything else goes through `_copy_sample` -/
theorem get_subset_key_sample_eq (null : α) (e r : DExt κ α) (isTime : Bool) (dim : Nat)
    (hdim : dim = if isTime then 3 else 4) (hed : e.sliceDim ≠ some dim)
    (he4 : 4 ≤ e.shape.length) (he5 : e.shape.length ≤ 5) (hev : isTime = false → e.shape.length = 5)
    (hesl : e.sliceDim.isSome = true)
    (h3 : 3 ≤ r.shape.length) (h5 : r.shape.length ≤ 5)
    (hsl : r.sliceDim.isSome = true) (hbase : ∀ d, basePresent r.shp d = true → d ∈ validClasses r.shp)
    (hrs : r.shp = if isTime then timeSubsetShp e.shp else vecSubsetShp e.shp)
    (c : Cls) (vals : List α) (idx : Nat) (hidx : idx < vals.length)
    (hdest : c ≠ gconst → (copySampleK e.shp r.shp isTime idx c vals).1 ∈ validClasses r.shp) :
    Py.get_subset_key null e.shape (e.sliceDim.map fun d => e.shape.getD d 1) e.sliceDim r.shape
        (r.sliceDim.map fun d => r.shape.getD d 1) (contentOf r) [] c vals dim idx =
      errOf (((if isTime then subsetTimeK null e.shp (some (c, vals)) idx else subsetVecK null e.shp (some (c, vals)) idx)).map toDict) := by
  simp only [Py.get_subset_key, beq_iff_eq, Ne.symm hed, ↓reduceIte, set_nil, bind_pure]
  by_cases hc : c = gconst
  · cases isTime <;> simp only [hc, subsetTimeK, subsetVecK, ↓reduceIte] <;> rfl
  · have hcs := copy_sample_eq null e r isTime he4 he5 hev hesl h3 h5 hsl hbase c hc vals idx hidx (hdest hc)
    subst hdim
    cases isTime <;> simp only [Bool.false_eq_true, ↓reduceIte] at hcs hrs ⊢ <;>
      simp only [hc, ↓reduceIte, Nat.reduceLT, Nat.reduceEqDiff, decide_false, Bool.false_eq_true, hcs, hrs, subsetVecK, subsetTimeK,
        sampleSubsetK]

/-! the translated methods compute (tests, not theorems) -/
example : Py.copy_slice (0 : Nat) [2, 2, 1, 2] (some 1) ["global", "time"] [] (some 2) gslices [1, 2, 3, 4] 1 =
    .ok [(tsamples, [2, 4])] := by rfl
example : Py.copy_slice (0 : Nat) [2, 2, 1, 2] (some 1) ["global", "time"] [] (some 2) gslices [1, 5, 3, 5] 1 =
    .ok [(gconst, [5])] := by rfl
example : Py.copy_sample (0 : Nat) [2, 2, 2] (some 2) ["global"] [] [2, 2, 2, 2] (some 2) gslices [1, 2, 3, 4] "time" 1 =
    .ok [(gslices, [3, 4])] := by rfl
example : Py.copy_sample (0 : Nat) [2, 2, 2] (some 2) ["global"] [] [2, 2, 2, 2] (some 2) tsamples [7, 8] "time" 1 =
    .ok [(gconst, [8])] := by rfl

end

end Src
