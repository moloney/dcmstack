import DcmVerif.Generated.Code_phoenix
import DcmVerif.Proofs.Phoenix
/-! `_parse_phoenix_line` and `parse_phoenix_prot` as translated from extract.py are the model's `Phx.parseLine` and
`Phx.parseProt`. -/
set_option autoImplicit false
set_option linter.unusedSimpArgs false  -- `bne_iff_ne` below is used only after a behaviour-preserving rewrite of the source

namespace Src
open Phx

theorem drop_min_len (a : Nat) (l : Str) : List.drop (min a l.length) l = List.drop a l := by
  by_cases h : a ≤ l.length
  · rw [Nat.min_eq_left h]
  · rw [Nat.min_eq_right (by omega), List.drop_eq_nil_of_le (Nat.le_refl _), List.drop_eq_nil_of_le (by omega)]

/-- **`_parse_phoenix_line` as written in extract.py is the model's `parseLine`**, for every line and every non-empty string
    delimiter (both dialects: `"` and `""`) -/
theorem parse_phoenix_line_eq (delim line : Str) (hd : delim ≠ []) :
    Py.parse_phoenix_line line delim = parseLine delim line := by
  unfold Py.parse_phoenix_line
  extract_lets l0 dl ci tail cut
  -- the statements after the comment handling, run on the line `l` that `stripComment` leaves
  have htail : ∀ l, stripComment delim line = some l → tail () l = parseLine delim line := by
    intro l hl
    simp only [tail, parseLine, hl, beq_iff_eq]
    by_cases hs : strip l = []
    · rw [if_pos hs, if_pos hs]
      rfl
    rw [if_neg hs, if_neg hs]
    cases he : findSub ['='] l with
    | none => rw [findI_none he, if_pos rfl]; rfl
    | some ei =>
      have hne : ¬ ((ei : Int) = -1) := by omega
      have h1 : (ei : Int) + 1 = ((ei + 1 : Nat) : Int) := by omega
      simp only [findI_some he, hne, if_false, pySlice_to, h1, pySlice_from]
      generalize strip (l.take ei) = key
      generalize strip (l.drop (ei + 1)) = v
      by_cases hq : delim.isPrefixOf v = true
      · rw [if_pos hq, if_pos hq]
        -- quoted string: the end quote is a natural number `m`, as `parseString_at` wants it
        obtain ⟨m, hm⟩ := findI_add_nat delim (v.drop delim.length) delim.length
          (List.length_pos_iff.mpr hd)
        simp only [dl, pySlice_from, hm, parseString_at delim key v m hm]
        have hm0 : ¬ ((m : Int) = -1) := by omega
        have hm1 : ((m : Int) = (v.length : Int) - (delim.length : Int)) = (m + delim.length = v.length) := by
          apply propext; omega
        have hm2 : (m : Int) + (delim.length : Int) = ((m + delim.length : Nat) : Int) := by omega
        -- `bne_iff_ne` is for a translation that spells the test `!=`
        simp only [hm0, if_false, Bool.not_eq_true', beq_eq_false_iff_ne, bne_iff_ne, ne_eq, hm1, hm2, pySlice_nat]
        by_cases h : m + delim.length = v.length <;>
          cases hp : ['#'].isPrefixOf (strip (v.drop (m + delim.length))) <;> simp [h, hp] <;> rfl
      · rw [if_neg hq, if_neg hq, parseNumber]
        cases pyInt v <;> cases pyIntHex v <;> cases pyFloatOk v <;> rfl
  -- the comment handling, as `stripComment` does it
  have hnone : stripComment delim line = none → POut.parseError = parseLine delim line :=
    fun h => by simp [parseLine, h]
  simp only [Id.run, ci, cut, l0, bne_iff_ne, ne_eq, beq_iff_eq]
  cases hc : findSub ['#'] line with
  | none =>
    rw [findI_none hc, if_neg (by simp)]
    exact htail line (by simp [stripComment, hc])
  | some i =>
    have hi : ¬ ((i : Int) = -1) := by omega
    simp only [findI_some hc, hi, pySlice_to, pySlice_from, not_false_eq_true, if_true]
    by_cases hcount : countSub delim (line.take i) = 1
    · rw [if_pos (by omega)]
      cases hf : findSub delim (line.drop i) with
      | none =>
        rw [findI_none hf, if_pos rfl]
        exact hnone (by simp [stripComment, hc, hcount, hf])
      | some j =>
        rw [findI_some hf, if_neg (by omega)]
        exact htail line (by simp [stripComment, hc, hcount, hf])
    · rw [if_neg (by omega)]
      exact htail _ (by simp [stripComment, hc, hcount])

/-! the translated function computes (tests, not theorems) -/
example : Py.parse_phoenix_line "alFree[3] = 0x10 # hex".toList ['"', '"'] = POut.pair "alFree[3]".toList (PVal.int 16) := by decide +kernel
example : Py.parse_phoenix_line "tName = \"\"a#b\"\" # c".toList ['"', '"'] = POut.pair "tName".toList (PVal.str "a#b".toList) := by decide +kernel
example : Py.parse_phoenix_line "   # only a comment".toList ['"'] = POut.none := by decide +kernel
example : Py.parse_phoenix_line "no equals sign".toList ['"'] = POut.parseError := by decide +kernel

/-! ### `parse_phoenix_prot` -/

/-- `xs[1:-1]` drops the first and the last element -/
theorem pySliceL_inner {β : Type} (l : List β) : pySliceL (1 : Int) (-1 : Int) l = dropLast (l.drop 1) := by
  have h1 : pySliceBound l.length 1 = min 1 l.length := by simp [pySliceBound]
  have h2 : pySliceBound l.length (-1) = l.length - 1 := by
    simp only [pySliceBound, show (-1 : Int) < 0 by decide, if_true, show (-(-1 : Int)).toNat = 1 from rfl]
    split <;> omega
  rw [pySliceL, h1, h2, dropLast, List.length_drop, List.drop_take]
  cases l <;> simp

/-- the loop of `parse_phoenix_prot` over the lines and the statements `k` after it, for any body that acts as the three
    outcomes of `parseLine` say -/
theorem prot_loop (delim : Str)
    (f : Str → Option ProtOut × List (Str × PVal) → Id (ForInStep (Option ProtOut × List (Str × PVal))))
    (k : Option ProtOut × List (Str × PVal) → Id ProtOut)
    (hf : ∀ line r, f line r =
      match parseLine delim line with
      | .parseError => pure (ForInStep.done (some ProtOut.parseError, r.2))
      | .none => pure (ForInStep.yield (none, r.2))
      | .pair k v => pure (ForInStep.yield (none, setKey r.2 k v)))
    (hk1 : ∀ acc, k (some ProtOut.parseError, acc) = ProtOut.parseError)
    (hk2 : ∀ acc, k (none, acc) = ProtOut.ok acc) (lines : List Str) (acc : List (Str × PVal)) :
    (forIn lines ((none : Option ProtOut), acc) f >>= k) = protLoop delim lines acc := by
  induction lines generalizing acc with
  | nil => exact hk2 acc
  | cons l ls ih =>
    rw [List.forIn_cons, hf, protLoop]
    cases hp : parseLine delim l with
    | parseError => exact hk1 acc
    | none => exact ih acc
    | pair k v => exact ih (setKey acc k v)

/-- **`parse_phoenix_prot` as written in extract.py is the model's `parseProt`** -/
theorem parse_phoenix_prot_eq (key text : Str) : Py.parse_phoenix_prot key text = parseProt key text := by
  unfold Py.parse_phoenix_prot
  extract_lets _ s e lines acc rest
  -- the statements after the choice of the delimiter `d`
  have hrest : ∀ d, d ≠ [] → rest () d = protLoop d lines [] := by
    intro d hd
    refine prot_loop d _ _ (fun line r => ?_) (fun _ => rfl) (fun _ => rfl) lines []
    simp only [parse_phoenix_line_eq d line hd]
    cases parseLine d line <;> rfl
  rw [show lines = dropLast ((splitLines (pySlice s e text)).drop 1) from pySliceL_inner _] at hrest
  simp only [Id.run, parseProt, beq_iff_eq]
  split
  · exact hrest _ (by decide)
  split
  · exact hrest _ (by decide)
  · rfl

example : Py.parse_phoenix_prot "MrProtocol".toList "x\n### ASCCONV BEGIN ###\na = 1\nb = \"q\"\na = 2\n### ASCCONV END ###".toList
    = ProtOut.ok [("a".toList, PVal.int 2), ("b".toList, PVal.str "q".toList)] := by decide +kernel
example : Py.parse_phoenix_prot "Other".toList [] = ProtOut.valueError := by decide +kernel

end Src
