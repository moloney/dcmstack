import DcmVerif.Proofs.Total
/-! C07: validity is closed under chains of `get_subset` calls of any length (one key). -/
set_option autoImplicit false

namespace Chain
variable {α : Type} [DecidableEq α]

/-- a shape the splitting theorems apply to -/
def Good (sh : Shp) : Prop := Consistent sh ∧ (sh.nd = 5 → 2 ≤ sh.V)

theorem good_slice (sh : Shp) (h : Good sh) : Good (sliceSubsetShp sh) :=
  ⟨h.1.withS Nat.one_pos, h.2⟩

theorem good_time (sh : Shp) (h : Good sh) (h45 : sh.nd = 4 ∨ sh.nd = 5) : Good (timeSubsetShp sh) := by
  obtain ⟨_, _, rV, _, rnd⟩ := timeSubsetShp_dims sh
  refine ⟨h.1.timeSubset h45, fun h5 => rV ▸ h.2 ?_⟩
  -- a 5-D piece comes from a 5-D parent
  rw [rnd] at h5
  split at h5
  · cases h5
  · exact h5

theorem good_vec (sh : Shp) (h : Good sh) (h5 : sh.nd = 5) : Good (vecSubsetShp sh) := by
  refine ⟨h.1.vecSubset h5, fun h5' => ?_⟩
  rw [(vecSubsetShp_dims sh).2.2.2.2] at h5'
  split at h5' <;> cases h5'

/-- one `get_subset(dim, idx)` call -/
inductive SubOp
  | slice (i : Nat)
  | time (i : Nat)
  | vec (i : Nat)

/-- shape after the step, `none` when the step does not apply (axis absent, index out of range) -/
def nextShp (sh : Shp) : SubOp → Option Shp
  | .slice i => if i < sh.S then some (sliceSubsetShp sh) else none
  | .time i => if (sh.nd = 4 ∨ sh.nd = 5) ∧ i < sh.T then some (timeSubsetShp sh) else none
  | .vec i => if sh.nd = 5 ∧ i < sh.V then some (vecSubsetShp sh) else none

def stepOp (null : α) (sh : Shp) (ks : KeyState α) : SubOp → Except Err (KeyState α)
  | .slice i => subsetSliceK null sh ks i
  | .time i => subsetTimeK null sh ks i
  | .vec i => subsetVecK null sh ks i

/-- a chain of `get_subset` calls on one key -/
def runOps (null : α) : Shp → KeyState α → List SubOp → Option (Shp × Except Err (KeyState α))
  | sh, ks, [] => some (sh, .ok ks)
  | sh, ks, op :: ops =>
    match nextShp sh op with
    | none => none
    | some sh' =>
      match stepOp null sh ks op with
      | .error e => some (sh', .error e)
      | .ok ks' => runOps null sh' ks' ops

theorem stepOp_valid (null : α) (sh sh' : Shp) (ks : KeyState α) (hg : Good sh) (hv : ValidK sh ks)
    (op : SubOp) (h : nextShp sh op = some sh') :
    Good sh' ∧ ∃ p, stepOp null sh ks op = .ok p ∧ ValidK sh' p := by
  cases op with
  | slice i =>
    obtain ⟨hi, rfl⟩ := Option.ite_some_none_eq_some.1 h
    obtain ⟨p, hp, hd, _⟩ := subsetSlice_run null sh hg.1 (Den.self hv) i hi
    exact ⟨good_slice sh hg, p, hp, hd.1⟩
  | time i =>
    obtain ⟨hi, rfl⟩ := Option.ite_some_none_eq_some.1 h
    obtain ⟨p, hp, hd⟩ := subsetTime_run null sh hg.1 hi.1 hg.2 (Den.self hv) i hi.2
    exact ⟨good_time sh hg hi.1, p, hp, hd.1⟩
  | vec i =>
    obtain ⟨hi, rfl⟩ := Option.ite_some_none_eq_some.1 h
    obtain ⟨p, hp, hd⟩ := subsetVec_run null sh hg.1 hi.1 (Den.self hv) i hi.2
    exact ⟨good_vec sh hg hi.1, p, hp, hd.1⟩

/-- **any chain of `get_subset` calls keeps the key valid and never fails**, from a valid key of a
    good shape -/
theorem chain_valid (null : α) (ops : List SubOp) (sh : Shp) (ks : KeyState α)
    (hg : Good sh) (hv : ValidK sh ks) (sh' : Shp) (res : Except Err (KeyState α))
    (h : runOps null sh ks ops = some (sh', res)) :
    Good sh' ∧ ∃ ks', res = .ok ks' ∧ ValidK sh' ks' := by
  induction ops generalizing sh ks with
  | nil =>
    simp only [runOps, Option.some.injEq, Prod.mk.injEq] at h
    obtain ⟨rfl, rfl⟩ := h
    exact ⟨hg, ks, rfl, hv⟩
  | cons op ops ih =>
    unfold runOps at h
    cases hn : nextShp sh op with
    | none => simp [hn] at h
    | some sh1 =>
      obtain ⟨hg1, p, hp, hvp⟩ := stepOp_valid null sh sh1 ks hg hv op hn
      simp only [hn, hp] at h
      exact ih sh1 p hg1 hvp h

end Chain
