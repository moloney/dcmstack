import DcmVerif.Generated.Code_wrapmerge
import DcmVerif.Proofs.Wrap
import DcmVerif.Proofs.CodeLemmas
/-! the result shape and the fill index expression of `NiftiWrapper.from_sequence` as translated from dcmmeta.py are the wrapper model's `mergeShape` and `fillSpecs`. -/
set_option autoImplicit false
namespace Src
open Wrap

/-- **the result shape of `NiftiWrapper.from_sequence` as written in dcmmeta.py is the model's `mergeShape`** -/
theorem wrap_merge_shape_eq (shape : List Nat) (dim n : Nat) :
    Py.wrap_merge_shape shape dim n = .ok (mergeShape shape dim n) := by
  simp only [Py.wrap_merge_shape, throw_bind']
  rw [mergeShape_eq]
  exact forIn_pad_done dim _ List.length_range shape _

def sizeSpec (n : Nat) : Spec := if n = 1 then Spec.int 0 else Spec.full

theorem fillSpecs'_eq_map : ∀ (s : List Nat), fillSpecs.fillSpecs' s = s.map sizeSpec
  | [] => rfl
  | n :: ns => by simp [fillSpecs.fillSpecs', sizeSpec, fillSpecs'_eq_map ns]

theorem fillSpecs_eq_set : ∀ (s : List Nat) (d i : Nat),
    fillSpecs s d i = (s.map sizeSpec).set d (Spec.int i)
  | [], d, i => by simp [fillSpecs]
  | n :: ns, 0, i => by simp [fillSpecs, fillSpecs'_eq_map]
  | n :: ns, d + 1, i => by simp [fillSpecs, sizeSpec, fillSpecs_eq_set ns d i]

/-- the `for dim_idx, dim_size in enumerate(result_shape)` loop once the axes before `s` have their specs `pre` -/
theorem fill_loop : ∀ (s : List Nat) (pre : List Spec),
    (forIn (m := Except PyErr) (s.zipIdx pre.length) (pre ++ List.replicate s.length Spec.full)
      fun (x : Nat × Nat) (r : List Spec) =>
        match x with
        | (dim_size, dim_idx) =>
          if (dim_size == 1) = true then pure (ForInStep.yield (r.set dim_idx (Spec.int 0)))
          else pure (ForInStep.yield r)) =
      .ok (pre ++ s.map sizeSpec)
  | [], pre => by simp; rfl
  | n :: ns, pre => by
    have ih := fill_loop ns (pre ++ [sizeSpec n])
    rw [List.length_append, List.length_singleton, List.append_assoc] at ih
    rw [List.zipIdx_cons, List.forIn_cons]
    by_cases hn : n = 1 <;> simp [hn, sizeSpec, List.replicate_succ] at ih ⊢ <;> exact ih

/-- **the index expression the inputs of `from_sequence` are written through, as written in
    dcmmeta.py, is the model's `fillSpecs`** -/
theorem fill_specs_eq (rshape : List Nat) (dim i : Nat) :
    Py.fill_specs rshape dim i = .ok (fillSpecs rshape dim i) := by
  simp only [Py.fill_specs]
  have h := fill_loop rshape []
  simp only [List.nil_append, List.length_nil] at h
  rw [h, ok_bind', fillSpecs_eq_set]
  rfl
end Src
