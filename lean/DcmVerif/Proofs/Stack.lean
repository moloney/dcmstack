import DcmVerif.Model.Stack
import DcmVerif.Proofs.ListLemmas
/-! Proofs about the stack model: the canonical order is a function of the file multiset (C12),
the blocks of the sorted list and the file index arithmetic of `get_data` (C02, C11), the reversal
keeps metadata with its data (C01/C20). -/
set_option autoImplicit false

namespace Stk

/-! ### insertion sort -/
section sort
variable {α : Type} (le : α → α → Bool)

theorem insertBy_perm (x : α) (l : List α) : (insertBy le x l).Perm (x :: l) := by
  induction l with
  | nil => exact List.Perm.refl _
  | cons y ys ih =>
    unfold insertBy
    split
    · exact List.Perm.refl _
    · exact (List.Perm.cons y ih).trans (List.Perm.swap x y ys)

theorem isort_perm (l : List α) : (isort le l).Perm l := by
  induction l with
  | nil => exact List.Perm.refl _
  | cons x xs ih => exact (insertBy_perm le x _).trans (List.Perm.cons x ih)

theorem isort_length (l : List α) : (isort le l).length = l.length :=
  (isort_perm le l).length_eq

variable (total : ∀ a b, le a b = true ∨ le b a = true)
  (trans : ∀ a b c, le a b = true → le b c = true → le a c = true)
include total trans

theorem insertBy_sorted (x : α) (l : List α) (h : l.Pairwise (fun a b => le a b = true)) :
    (insertBy le x l).Pairwise (fun a b => le a b = true) := by
  induction l with
  | nil => exact List.pairwise_singleton _ _
  | cons y ys ih =>
    obtain ⟨hy, hys⟩ := List.pairwise_cons.mp h
    unfold insertBy
    split
    · next hxy =>
      refine List.Pairwise.cons (fun b hb => ?_) h
      rcases List.mem_cons.mp hb with rfl | hb
      · exact hxy
      · exact trans _ _ _ hxy (hy b hb)
    · next hxy =>
      refine List.Pairwise.cons (fun b hb => ?_) (ih hys)
      rcases List.mem_cons.mp ((insertBy_perm le x ys).mem_iff.mp hb) with rfl | hb
      · exact (total b y).resolve_left hxy
      · exact hy b hb

theorem isort_sorted (l : List α) : (isort le l).Pairwise (fun a b => le a b = true) := by
  induction l with
  | nil => exact List.Pairwise.nil
  | cons x xs ih => exact insertBy_sorted le total trans x _ ih

/-- `isort le l` is the only sorted rearrangement of `l`, when `le` is antisymmetric on the
    elements -/
theorem isort_eq_of_sorted_perm {l s : List α} (hp : s.Perm l)
    (hs : s.Pairwise (fun a b => le a b = true))
    (antisymm : ∀ a b, a ∈ l → b ∈ l → le a b = true → le b a = true → a = b) :
    isort le l = s :=
  List.Perm.eq_of_pairwise
    (fun a b ha hb => antisymm a b ((isort_perm le l).mem_iff.mp ha) (hp.mem_iff.mp hb))
    (isort_sorted le total trans l) hs ((isort_perm le l).trans hp.symm)

/-- **sorting is a function of the multiset** when `le` is antisymmetric on the elements -/
theorem isort_perm_invariant (l₁ l₂ : List α) (h : l₁.Perm l₂)
    (antisymm : ∀ a b, a ∈ l₁ → b ∈ l₁ → le a b = true → le b a = true → a = b) :
    isort le l₁ = isort le l₂ :=
  isort_eq_of_sorted_perm le total trans ((isort_perm le l₂).trans h.symm)
    (isort_sorted le total trans l₂) antisymm

theorem isort_of_sorted (l : List α) (hs : l.Pairwise (fun a b => le a b = true))
    (antisymm : ∀ a b, a ∈ l → b ∈ l → le a b = true → le b a = true → a = b) :
    isort le l = l :=
  isort_eq_of_sorted_perm le total trans (List.Perm.refl l) hs antisymm

end sort

/-! ### the tuple order -/

theorem lexLE_iff (a b : F) : lexLE a b = true ↔
    a.v < b.v ∨ (a.v = b.v ∧ (a.t < b.t ∨ (a.t = b.t ∧ a.p ≤ b.p))) := by
  simp only [lexLE, Bool.or_eq_true, Bool.and_eq_true, decide_eq_true_eq, beq_iff_eq]

theorem posLE_iff (a b : F) : posLE a b = true ↔ a.p ≤ b.p := by
  simp only [posLE, decide_eq_true_eq]

/-! One level of a lexicographic comparison of integers, `x < y ∨ x = y ∧ rest`: totality,
transitivity and antisymmetry pass from `rest` to the whole. -/
section lex
variable {x y z : Int} {P Q R : Prop}

theorem lex_total (h : P ∨ Q) : (x < y ∨ x = y ∧ P) ∨ (y < x ∨ y = x ∧ Q) := by
  rcases Int.lt_trichotomy x y with hlt | rfl | hgt
  · exact .inl (.inl hlt)
  · exact h.imp (fun p => .inr ⟨rfl, p⟩) (fun q => .inr ⟨rfl, q⟩)
  · exact .inr (.inl hgt)

theorem lex_trans (h : P → Q → R) (h1 : x < y ∨ x = y ∧ P) (h2 : y < z ∨ y = z ∧ Q) :
    x < z ∨ x = z ∧ R := by
  rcases h1 with h1 | ⟨rfl, p⟩
  · exact .inl (h2.elim (Int.lt_trans h1) fun ⟨e, _⟩ => e ▸ h1)
  · exact h2.imp_right fun ⟨e, q⟩ => ⟨e, h p q⟩

theorem lex_antisymm (h1 : x < y ∨ x = y ∧ P) (h2 : y < x ∨ y = x ∧ Q) : x = y ∧ P ∧ Q := by
  rcases h1 with h1 | ⟨rfl, p⟩
  · exact absurd h1 (h2.elim Int.lt_asymm fun ⟨e, _⟩ => e ▸ Int.lt_irrefl y)
  · exact ⟨rfl, p, h2.elim (fun h => absurd h (Int.lt_irrefl x)) (·.2)⟩

end lex

theorem lexLE_total (a b : F) : lexLE a b = true ∨ lexLE b a = true := by
  rw [lexLE_iff, lexLE_iff]
  exact lex_total (lex_total (Int.le_total _ _))

theorem lexLE_trans (a b c : F) (h1 : lexLE a b = true) (h2 : lexLE b c = true) :
    lexLE a c = true := by
  rw [lexLE_iff] at *
  exact lex_trans (lex_trans Int.le_trans) h1 h2

def key (a : F) : Int × Int × Int := (a.v, a.t, a.p)

theorem lexLE_antisymm_key (a b : F) (h1 : lexLE a b = true) (h2 : lexLE b a = true) :
    key a = key b := by
  rw [lexLE_iff] at h1 h2
  obtain ⟨hv, h1, h2⟩ := lex_antisymm h1 h2
  obtain ⟨ht, h1, h2⟩ := lex_antisymm h1 h2
  rw [key, key, hv, ht, Int.le_antisymm h1 h2]

theorem posLE_total (a b : F) : posLE a b = true ∨ posLE b a = true := by
  rw [posLE_iff, posLE_iff]; exact Int.le_total _ _

theorem posLE_trans (a b c : F) (h1 : posLE a b = true) (h2 : posLE b c = true) :
    posLE a c = true := by
  rw [posLE_iff] at *; exact Int.le_trans h1 h2

/-- distinct sorting tuples: what the collision check of `add_dcm` guarantees under explicit
    ordering -/
def DistinctKeys (l : List F) : Prop := ∀ a b, a ∈ l → b ∈ l → key a = key b → a = b

theorem distinctKeys_perm (l₁ l₂ : List F) (h : l₁.Perm l₂) (hd : DistinctKeys l₁) :
    DistinctKeys l₂ :=
  fun a b ha hb e => hd a b (h.mem_iff.mpr ha) (h.mem_iff.mpr hb) e

theorem DistinctKeys.antisymm {l : List F} (hd : DistinctKeys l) (a b : F) (ha : a ∈ l)
    (hb : b ∈ l) (h1 : lexLE a b = true) (h2 : lexLE b a = true) : a = b :=
  hd a b ha hb (lexLE_antisymm_key a b h1 h2)

theorem isort_lex_perm_invariant (l₁ l₂ : List F) (h : l₁.Perm l₂) (hd : DistinctKeys l₁) :
    isort lexLE l₁ = isort lexLE l₂ :=
  isort_perm_invariant lexLE lexLE_total lexLE_trans l₁ l₂ h hd.antisymm

/-- **C12 core:** the canonical order `_chk_order` establishes depends only on the set of files,
    not on the order in which they were added or left by earlier calls -/
theorem chkSort_perm_invariant (S vols : Nat) (l₁ l₂ : List F) (h : l₁.Perm l₂)
    (hd : DistinctKeys l₁) : chkSort S vols l₁ = chkSort S vols l₂ := by
  unfold chkSort
  rw [isort_lex_perm_invariant l₁ l₂ h hd]

/-! ### chunks -/
section chunks
variable {α : Type}

theorem chunks_eq_map (n : Nat) : ∀ (k : Nat) (l : List α),
    chunks n k l = (List.range k).map fun b => (l.drop (b * n)).take n
  | 0, _ => rfl
  | k + 1, l => by
    rw [chunks, chunks_eq_map n k, List.range_succ_eq_map, List.map_cons, List.map_map,
      Nat.zero_mul, List.drop_zero]
    simp only [Function.comp_def, List.drop_drop, Nat.succ_mul, Nat.add_comm n]

theorem chunks_length (n k : Nat) (l : List α) : (chunks n k l).length = k := by
  rw [chunks_eq_map, List.length_map, List.length_range]

theorem length_take_drop {l : List α} {n k b : Nat} (h : l.length = n * k) (hb : b < k) :
    ((l.drop (b * n)).take n).length = n :=
  length_block l n b k (Nat.le_of_eq h.symm) hb

theorem chunks_block_length (n k : Nat) (l : List α) (h : l.length = n * k) :
    ∀ b ∈ chunks n k l, b.length = n := by
  rw [chunks_eq_map]
  exact List.forall_mem_map.mpr fun _ hi => length_take_drop h (List.mem_range.mp hi)

theorem chunks_flatten (n k : Nat) (l : List α) (h : l.length = n * k) :
    (chunks n k l).flatten = l := by
  induction k generalizing l with
  | zero => exact (List.eq_nil_of_length_eq_zero h).symm
  | succ k ih =>
    rw [chunks, List.flatten_cons, ih _ (by rw [List.length_drop, h, Nat.mul_succ]; omega)]
    exact List.take_append_drop n l

theorem chunks_flatten_blocks (n k : Nat) (bs : List (List α)) (h : ∀ b ∈ bs, b.length = n)
    (hk : bs.length = k) : chunks n k bs.flatten = bs := by
  subst hk
  induction bs with
  | nil => rfl
  | cons b rest ih =>
    have hb : b.length = n := h b List.mem_cons_self
    rw [List.length_cons, chunks, List.flatten_cons, List.take_left' hb, List.drop_left' hb,
      ih fun x hx => h x (List.mem_cons_of_mem _ hx)]

theorem map_flatten_perm (f : List α → List α) (hf : ∀ b, (f b).Perm b) (ls : List (List α)) :
    ((ls.map f).flatten).Perm ls.flatten := by
  induction ls with
  | nil => exact List.Perm.refl _
  | cons b bs ih => exact List.Perm.append (hf b) ih

theorem reverseBlocks_perm (S vols : Nat) (l : List α) (h : l.length = S * vols) :
    (reverseBlocks S vols l).Perm l := by
  have := map_flatten_perm List.reverse List.reverse_perm (chunks S vols l)
  rwa [chunks_flatten S vols l h] at this

theorem reverseBlocks_length (S vols : Nat) (l : List α) (hlen : l.length = S * vols) :
    (reverseBlocks S vols l).length = l.length :=
  (reverseBlocks_perm S vols l hlen).length_eq

theorem reversed_block_length (S vols : Nat) (l : List α) (hlen : l.length = S * vols) :
    ∀ b ∈ (chunks S vols l).map List.reverse, b.length = S :=
  List.forall_mem_map.mpr fun c hc =>
    (List.length_reverse (as := c)).trans (chunks_block_length S vols l hlen c hc)

theorem reverseBlocks_involutive (S vols : Nat) (l : List α) (hlen : l.length = S * vols) :
    reverseBlocks S vols (reverseBlocks S vols l) = l := by
  unfold reverseBlocks
  rw [chunks_flatten_blocks S vols _ (reversed_block_length S vols l hlen)
    (by rw [List.length_map, chunks_length]), List.map_map]
  simp only [Function.comp_def, List.reverse_reverse, List.map_id']
  exact chunks_flatten S vols l hlen

end chunks

theorem chkSort_perm (S vols : Nat) (l : List F) (h : l.length = S * vols) :
    (chkSort S vols l).Perm l := by
  have := map_flatten_perm (isort posLE) (isort_perm posLE) (chunks S vols (isort lexLE l))
  rw [chunks_flatten S vols _ ((isort_length lexLE l).trans h)] at this
  exact this.trans (isort_perm lexLE l)

/-! ### history independence (C12) -/

/-- every reachable state holds the files that were added, and when the dirty flag is clear they
    are in canonical order -/
def Inv (S vols : Nat) (M : List F) (st : St) : Prop :=
  st.files.Perm M ∧ (st.dirty = false → st.files = chkSort S vols M)

/-- what a call's output is built from, as a function of the file set and the call -/
def outOf (S vols : Nat) (M : List F) : Op → List F
  | .nifti true => if S > 1 then reverseBlocks S vols (chkSort S vols M) else chkSort S vols M
  | _ => chkSort S vols M

theorem canon_spec (S vols : Nat) (M : List F) (hd : DistinctKeys M) (st : St)
    (h : Inv S vols M st) :
    (canon S vols st).files = chkSort S vols M ∧ (canon S vols st).dirty = false := by
  unfold canon
  cases hdirty : st.dirty with
  | true =>
    exact ⟨chkSort_perm_invariant S vols st.files M h.1 (distinctKeys_perm M st.files h.1.symm hd),
      rfl⟩
  | false => exact ⟨h.2 hdirty, hdirty⟩

theorem step_spec (S vols : Nat) (M : List F) (hd : DistinctKeys M) (hlen : M.length = S * vols)
    (st : St) (h : Inv S vols M st) (op : Op) :
    (step S vols st op).2 = outOf S vols M op ∧ Inv S vols M (step S vols st op).1 := by
  obtain ⟨hf, hdt⟩ := canon_spec S vols M hd st h
  have hsort := chkSort_perm S vols M hlen
  have hcanon : Inv S vols M (canon S vols st) := ⟨hf ▸ hsort, fun _ => hf⟩
  match op with
  | .nifti true =>
    by_cases hS : S > 1
    · simp only [step, hS, if_true, outOf, hf, true_and]
      -- the reversal sets the dirty flag: only the file set has to be kept
      exact ⟨(reverseBlocks_perm S vols _ (hsort.length_eq.trans hlen)).trans hsort,
        fun hc => by cases hc⟩
    · simp only [step, hS, if_false, outOf, hf, true_and]
      exact hcanon
  | .nifti false | .shape | .data | .affine => exact ⟨hf, hcanon⟩

theorem run_inv (S vols : Nat) (M : List F) (hd : DistinctKeys M) (hlen : M.length = S * vols)
    (ops : List Op) (st : St) (h : Inv S vols M st) : Inv S vols M (run S vols st ops) := by
  induction ops generalizing st with
  | nil => exact h
  | cons op ops ih => exact ih _ (step_spec S vols M hd hlen st h op).2

/-- **C12:** after any history of queries and conversions, on a stack whose files were added in
    any order, a call's output is built from a file order that depends only on the file set and
    the call's arguments. -/
theorem history_independent (S vols : Nat) (M : List F) (hd : DistinctKeys M)
    (hlen : M.length = S * vols) (added : List F) (hperm : added.Perm M)
    (history : List Op) (op : Op) :
    (step S vols (run S vols { files := added, dirty := true } history) op).2 = outOf S vols M op :=
  (step_spec S vols M hd hlen _
    (run_inv S vols M hd hlen history _ ⟨hperm, fun h => by cases h⟩) op).1

/-! ### the reversal and the file index -/
section reversal
variable {α : Type}

theorem reverseBlocks_succ (S k : Nat) (l : List α) :
    reverseBlocks S (k + 1) l = (l.take S).reverse ++ reverseBlocks S k (l.drop S) := by
  simp [reverseBlocks, chunks]

/-- **the reversed file list follows the flipped data:** in volume block `b`, position `s` of the
    reversed list holds the file that was at position `S − 1 − s` of that block -/
theorem reverseBlocks_getElem? (S vols : Nat) (l : List α) (hlen : l.length = S * vols)
    (b s : Nat) (hb : b < vols) (hs : s < S) :
    (reverseBlocks S vols l)[b * S + s]? = l[b * S + (S - 1 - s)]? := by
  have hbl := length_take_drop hlen hb
  -- block `b` of the concatenation is block `b` of `l`, reversed
  rw [reverseBlocks, flatten_getElem? S _ (reversed_block_length S vols l hlen) b s
      (by rw [List.length_map, chunks_length]; exact hb) hs,
    chunks_eq_map, List.map_map, List.getElem?_map, List.getElem?_range hb]
  show ((l.drop (b * S)).take S).reverse[s]? = _
  rw [List.getElem?_reverse (hbl.symm ▸ hs), hbl, getElem?_drop_take _ _ _ _ (by omega)]

end reversal

/-! `get_data` writes its index most significant digit first, `a * m + b`: the mixed-radix facts of
`ListLemmas` (`b + m * a`) in that spelling. -/

theorem idx_lt {a b n m : Nat} (ha : a < n) (hb : b < m) : a * m + b < n * m := by
  rw [Nat.add_comm, Nat.mul_comm a, Nat.mul_comm n]
  exact lt_mul_of' b a m n hb ha

theorem idx_inj {a b a' b' m : Nat} (hb : b < m) (hb' : b' < m) (h : a * m + b = a' * m + b') :
    a = a' ∧ b = b' := by
  rw [Nat.add_comm, Nat.mul_comm, Nat.add_comm (a' * m), Nat.mul_comm a'] at h
  exact ⟨by rw [← add_mul_div' b m a hb, h, add_mul_div' b' m a' hb'],
    by rw [← add_mul_mod' b m a hb, h, add_mul_mod' b' m a' hb']⟩

theorem forall_lt_mul (n m : Nat) (P : Nat → Prop) :
    (∀ j, j < n * m → P j) ↔ ∀ a, a < n → ∀ b, b < m → P (a * m + b) := by
  refine ⟨fun h a ha b hb => h _ (idx_lt ha hb), fun h j hj => ?_⟩
  have hm : 0 < m := Nat.pos_of_ne_zero fun h0 => by rw [h0] at hj; omega
  have := h (j / m) ((Nat.div_lt_iff_lt_mul hm).mpr hj) (j % m) (Nat.mod_lt _ hm)
  rwa [Nat.div_add_mod'] at this

theorem count_factors {n s v : Nat} (hs : n % s = 0) (hv : n / s % v = 0) :
    n = s * (n / s / v) * v := by
  rw [Nat.mul_assoc, Nat.div_mul_cancel (Nat.dvd_of_mod_eq_zero hv),
    Nat.mul_div_cancel' (Nat.dvd_of_mod_eq_zero hs)]

/-- `get_data` places slice `s`, time `t`, vector `v` from file number `fileIdx`: the index is in
    range … -/
theorem fileIdx_lt (S T V s t v : Nat) (hs : s < S) (ht : t < T) (hv : v < V) :
    fileIdx S T s t v < S * T * V := by
  unfold fileIdx
  rw [Nat.mul_comm S T, Nat.mul_comm (T * S) V, Nat.add_assoc]
  exact idx_lt hv (idx_lt ht hs)

/-- … and distinct cells get distinct files (so every file fills exactly one cell) -/
theorem fileIdx_inj (S T s t v s' t' v' : Nat) (hs : s < S) (ht : t < T) (hs' : s' < S)
    (ht' : t' < T) (h : fileIdx S T s t v = fileIdx S T s' t' v') : s = s' ∧ t = t' ∧ v = v' := by
  unfold fileIdx at h
  rw [Nat.add_assoc, Nat.add_assoc] at h
  obtain ⟨rfl, hts⟩ := idx_inj (idx_lt ht hs) (idx_lt ht' hs') h
  obtain ⟨rfl, rfl⟩ := idx_inj hs hs' hts
  exact ⟨rfl, rfl, rfl⟩

/-- **metadata follows data (C01, C20):** the volume block `t + T·v`, position `k` of the order
    used for embedded metadata and slice times after a slice-flipping conversion is the file whose
    pixels `get_data` put at slice `S − 1 − k` — the slice that the flip moves to output slice `k`. -/
theorem meta_follows_flipped_data (S T V : Nat) (L : List F) (hlen : L.length = S * (T * V))
    (k t v : Nat) (hk : k < S) (ht : t < T) (hv : v < V) :
    (reverseBlocks S (T * V) L)[(t + T * v) * S + k]? = L[fileIdx S T (S - 1 - k) t v]? := by
  rw [reverseBlocks_getElem? S (T * V) L hlen (t + T * v) k (lt_mul_of' t v T V ht hv) hk]
  congr 1
  unfold fileIdx
  rw [Nat.add_mul, Nat.mul_assoc, Nat.mul_comm T (v * S), Nat.mul_assoc, Nat.mul_comm S T]
  omega

end Stk
