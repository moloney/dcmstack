import DcmVerif.Generated.Code_wrapsplit
import DcmVerif.Proofs.CodeLemmas
/-! the index expression and the trimming loop of `NiftiWrapper.split` as translated from dcmmeta.py are the wrapper model's `splitSpecs` and `trim`. -/
set_option autoImplicit false
namespace Src
open Wrap
variable {α : Type}

theorem set_replicate_eq_map {β : Type} (n d : Nat) (a s : β) :
    (List.replicate n a).set d s = (List.range n).map (fun ax => if ax = d then s else a) := by
  apply List.ext_getElem?
  intro j
  by_cases hj : j < n <;> by_cases hd : d = j <;> simp [hj, hd, eq_comm]

/-- **the index expression `split` builds, as written in dcmmeta.py, is the model's `splitSpecs`** -/
theorem split_specs_eq (shape : List Nat) (dim idx : Nat) :
    Py.split_specs shape dim idx = .ok (splitSpecs shape.length dim idx) := by
  have hc : (decide (dim ≥ 3) && (dim == shape.length - 1)) = decide (3 ≤ dim ∧ dim + 1 = shape.length) := by
    rw [Bool.eq_iff_iff]; simp; omega
  simp only [Py.split_specs, splitSpecs, hc, set_replicate_eq_map]
  unfold splitSpec
  by_cases h : 3 ≤ dim ∧ dim + 1 = shape.length <;> simp [h] <;> rfl

def arrTrimCond (a : Arr α) : Bool :=
  decide (a.shape.length > 3) && (a.shape[a.shape.length - 1]! == 1)

theorem arrTrimCond_iff (a : Arr α) :
    arrTrimCond a = true ↔ (3 < a.shape.length ∧ a.shape.getLast? = some 1) := by
  unfold arrTrimCond
  rw [List.getLast?_eq_getElem?]
  by_cases h : 3 < a.shape.length
  · have hl : a.shape.length - 1 < a.shape.length := by omega
    simp [h, List.getElem?_eq_getElem hl]
  · simp [h]

theorem whileFuel_arrTrim : ∀ (n : Nat) (a : Arr α),
    whileFuel arrTrimCond Arr.dropLast0 n a = trim n a
  | 0, a => rfl
  | n + 1, a => by
    by_cases hc : arrTrimCond a = true
    · rw [whileFuel, if_pos hc, trim, if_pos ((arrTrimCond_iff a).1 hc)]
      exact whileFuel_arrTrim n a.dropLast0
    · rw [whileFuel, if_neg hc, trim, if_neg (fun h => hc ((arrTrimCond_iff a).2 h))]

/-- **the trimming loop of `split`, as written in dcmmeta.py, is the model's `trim`** -/
theorem split_trim_eq (a : Arr α) : Py.split_trim a = .ok (trim a.shape.length a) := by
  simp only [Py.split_trim, throw_bind']
  -- every round of the loop removes an axis
  refine (forIn_while_done arrTrimCond Arr.dropLast0 _ _ _
    (whileFuel_cond_false _ _ (·.shape.length) ?_ _ _ (by simp))).trans ?_
  · intro r hc
    have := ((arrTrimCond_iff r).1 hc).1
    simp [Arr.dropLast0]; omega
  · rw [List.length_range, whileFuel_arrTrim]
    rfl

end Src
