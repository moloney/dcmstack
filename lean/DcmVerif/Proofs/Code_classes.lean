import DcmVerif.Generated.Code_classes
import DcmVerif.Model.Ext
import DcmVerif.Proofs.CodeLemmas
import DcmVerif.Proofs.Key.Shape
/-! `get_valid_classes` and `get_multiplicity` as translated from dcmmeta.py are the model's `validClasses` and `mult`.

The code reads a shape through its length, `shape[3]`, `shape[4]` and `shape[3:]`, the model through the digest `Shp`.
`ShpOf shape n sh` says that `sh` is a digest of `shape` and `n_slices = n`; both functions are characterised for any such
triple, and the proofs about their callers go through these lemmas instead of unfolding them on shape literals. -/
set_option autoImplicit false

namespace Src
variable {α κ : Type}

/-! ### what the code reads of a shape -/

/-- `for dim_size in shape[3:]: m *= dim_size` multiplies by the sizes of the time and vector axes (1 where there is none) -/
theorem foldl_mul_drop3 (l : List Nat) (h5 : l.length ≤ 5) (m : Nat) :
    (l.drop 3).foldl (· * ·) m = m * (l.getD 3 1 * l.getD 4 1) := by
  have h3 : l.getD 3 1 = (l.drop 3).getD 0 1 := by simp
  have h4 : l.getD 4 1 = (l.drop 3).getD 1 1 := by simp
  have hl : (l.drop 3).length ≤ 2 := by simp; omega
  rw [h3, h4]
  generalize l.drop 3 = r at hl
  match r, hl with
  | [], _ => simp
  | [t], _ => simp
  | [t, v], _ => simp [Nat.mul_assoc]

/-- `sh` is a digest of an extension with this `shape` and this `n_slices` (None without slice dimension) -/
structure ShpOf (shape : List Nat) (n : Option Nat) (sh : Shp) : Prop where
  nd : sh.nd = shape.length
  T : sh.T = shape.getD 3 1
  V : sh.V = shape.getD 4 1
  n_slices : n = if sh.hasSlice then some sh.S else none

theorem shpOf_shp (e : DExt κ α) (sdArg : Option Nat) :
    ShpOf e.shape (e.sliceDim.map fun d => e.shape.getD d 1) (e.shp sdArg) := by
  refine ⟨rfl, rfl, rfl, ?_⟩
  cases h : e.sliceDim <;> simp [DExt.shp, h]

/-- the base names that have a dictionary in `_content`, against the model's `basePresent` -/
theorem bases_contains (e : DExt κ α) (sdArg : Option Nat) (d : Cls) :
    (["global"] ++ (if e.hasTime then ["time"] else []) ++ (if e.hasVector then ["vector"] else [])).contains d.base =
      basePresent (e.shp sdArg) d := by
  cases d <;> simp [Cls.base, basePresent, DExt.shp]

namespace ShpOf
variable {shape : List Nat} {n : Option Nat} {sh : Shp} (h : ShpOf shape n sh)
include h

theorem getT (h4 : 3 < shape.length) : shape[3]! = sh.T := by simp [h.T, h4]

theorem getV (h5 : 4 < shape.length) : shape[4]! = sh.V := by simp [h.V, h5]

theorem V_one (h4 : shape.length ≤ 4) : sh.V = 1 := by simp [h.V, h4]

theorem prod (h5 : shape.length ≤ 5) (m : Nat) : (shape.drop 3).foldl (· * ·) m = m * (sh.T * sh.V) := by
  rw [h.T, h.V, foldl_mul_drop3 shape h5]

theorem forIn_prod (h5 : shape.length ≤ 5) (m : Nat) :
    forIn (m := Except PyErr) (shape.drop 3) m (fun d r => pure (ForInStep.yield (r * d))) = .ok (m * (sh.T * sh.V)) := by
  rw [forIn_yield (fun d r => r * d), h.prod h5]

/-- `self.n_slices` of an extension with a slice dimension (for one without, `None * 2` or `range(None)` is a TypeError) -/
theorem pyGet (hs : sh.hasSlice = true) : pyGet n = .ok sh.S := by
  rw [h.n_slices, hs]
  rfl

end ShpOf

theorem ShpOf.lt_length {shape : List Nat} {n : Option Nat} {sh : Shp} (h : ShpOf shape n sh) (h3 : 3 ≤ shape.length)
    {c : Cls} (hc : c ∈ validClasses sh) :
    (c.base ≠ "global" → 3 < shape.length) ∧ (c.base = "vector" → 4 < shape.length) := by
  have := (mem_validClasses sh c).1 hc
  rw [h.nd] at this
  cases c <;> simp [Cls.base] at this ⊢ <;> omega

/-! ### `get_valid_classes`, `get_multiplicity` -/

theorem get_valid_classes_of {shape : List Nat} {n : Option Nat} {sh : Shp} (h : ShpOf shape n sh)
    (h3 : 3 ≤ shape.length) (h5 : shape.length ≤ 5) :
    Py.get_valid_classes shape = .ok (validClasses sh) := by
  have : shape.length = 3 ∨ shape.length = 4 ∨ shape.length = 5 := by omega
  rcases this with hl | hl | hl <;>
    simp [Py.get_valid_classes, validClasses, h.nd, h.T, hl, Gen.classifications, pure, Except.pure]
  split <;> rfl

/-- **`get_valid_classes` as written in dcmmeta.py is the model's `validClasses`** (3 to 5 axes) … -/
theorem get_valid_classes_eq (e : DExt κ α) (sdArg : Option Nat) (h3 : 3 ≤ e.shape.length)
    (h5 : e.shape.length ≤ 5) :
    Py.get_valid_classes e.shape = .ok (validClasses (e.shp sdArg)) :=
  get_valid_classes_of (shpOf_shp e sdArg) h3 h5

/-- … and raises ValueError for any other number of axes -/
theorem get_valid_classes_refuses (shape : List Nat) (h : ¬ (3 ≤ shape.length ∧ shape.length ≤ 5)) :
    Py.get_valid_classes shape = .error PyErr.valueError := by
  have h3 : (shape.length == 3) = false := by simp; omega
  have h4 : (shape.length == 4) = false := by simp; omega
  have h5 : (shape.length == 5) = false := by simp; omega
  simp [Py.get_valid_classes, h3, h4, h5]
  rfl

theorem get_multiplicity_of {shape : List Nat} {n : Option Nat} {sh : Shp} (h : ShpOf shape n sh)
    (h3 : 3 ≤ shape.length) (h5 : shape.length ≤ 5) (c : Cls) :
    Py.get_multiplicity shape n c =
      if c ∈ validClasses sh then .ok (mult sh c) else .error PyErr.valueError := by
  have hv := get_valid_classes_of h h3 h5
  by_cases hc : c ∈ validClasses sh
  · obtain ⟨h4, h5'⟩ := h.lt_length h3 hc
    simp only [Py.get_multiplicity, hv, ok_bind', h.n_slices, if_pos hc]
    -- below `shape[3]!`, `shape[4]!` are rewritten before `simp` runs: it has a normal form of its own for them
    cases c
    case gconst => simp [hc, Cls.sub, mult]; rfl
    case gslices => cases hs : sh.hasSlice <;> simp [hc, hs, Cls.base, Cls.sub, mult, h.prod h5, Nat.mul_assoc] <;> rfl
    case tslices => cases hs : sh.hasSlice <;> simp [hc, hs, Cls.base, Cls.sub, mult] <;> rfl
    case vslices =>
      rw [h.getT (h4 (by decide))]
      cases hs : sh.hasSlice <;> simp [hc, hs, Cls.base, Cls.sub, mult] <;> rfl
    case tsamples =>
      rw [h.getT (h4 (by decide))]
      by_cases hl : shape.length = 5
      · rw [h.getV (by omega)]
        simp [hc, Cls.base, Cls.sub, mult, hl]; rfl
      · simp [hc, Cls.base, Cls.sub, mult, hl, h.V_one (by omega)]; rfl
    case vsamples =>
      rw [h.getV (h5' rfl)]
      simp [hc, Cls.base, Cls.sub, mult]; rfl
  · simp [Py.get_multiplicity, hv, hc, ok_bind', ↓throw_bind']

/-- **`get_multiplicity` as written in dcmmeta.py is the model's `mult`** for every classification
    valid for the shape (`n_slices` is `shape[slice_dim]`, or None without slice dimension) -/
theorem get_multiplicity_eq (e : DExt κ α) (h3 : 3 ≤ e.shape.length) (h5 : e.shape.length ≤ 5)
    (c : Cls) (hv : c ∈ validClasses e.shp) :
    Py.get_multiplicity e.shape (e.sliceDim.map fun d => e.shape.getD d 1) c = .ok (mult e.shp c) := by
  rw [get_multiplicity_of (shpOf_shp e none) h3 h5, if_pos hv]

end Src
