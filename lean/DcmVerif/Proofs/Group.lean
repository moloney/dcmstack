import DcmVerif.Model.Group
/-! C18: grouping partitions the readable image files and isolates faulty ones.

`placeSub` and `place` are the same operation on two levels — update the first entry whose key
matches, or append a new entry (`upsert`) — so what both need is proved once, about `upsert`. -/
set_option autoImplicit false

namespace Grp

section upsert
variable {K V : Type} (p : K → Prop) [DecidablePred p] (f : V → V) (new : K × V)

/-- update the value under the first key that satisfies `p`, or append `new` when there is none -/
def upsert : List (K × V) → List (K × V)
  | [] => [new]
  | (k, v) :: rest => if p k then (k, f v) :: rest else (k, v) :: upsert rest

theorem upsert_first_fit (pre : List (K × V)) (k : K) (v : V) (post : List (K × V))
    (hpre : ∀ x ∈ pre, ¬ p x.1) (h : p k) :
    upsert p f new (pre ++ (k, v) :: post) = pre ++ (k, f v) :: post := by
  induction pre with
  | nil => simp [upsert, h]
  | cons x rest ih =>
    have hx : ¬ p x.1 := hpre x (by simp)
    simp only [List.cons_append, upsert, hx, if_false, ih fun y hy => hpre y (by simp [hy])]

theorem upsert_cases (l : List (K × V)) :
    ((∀ x ∈ l, ¬ p x.1) ∧ upsert p f new l = l ++ [new]) ∨
    ∃ pre k v post, l = pre ++ (k, v) :: post ∧ p k ∧ upsert p f new l = pre ++ (k, f v) :: post := by
  induction l with
  | nil => exact Or.inl ⟨by simp, rfl⟩
  | cons x rest ih =>
    by_cases hx : p x.1
    · exact Or.inr ⟨[], x.1, x.2, rest, rfl, hx, by simp [upsert, hx]⟩
    · rcases ih with ⟨hn, e⟩ | ⟨pre, k, v, post, rfl, hk, e⟩
      · exact Or.inl ⟨by simpa [hx] using hn, by simp [upsert, hx, e]⟩
      · exact Or.inr ⟨x :: pre, k, v, post, rfl, hk, by simp [upsert, hx, e]⟩

theorem upsert_new (l : List (K × V)) (h : ∀ x ∈ l, ¬ p x.1) : upsert p f new l = l ++ [new] := by
  rcases upsert_cases p f new l with ⟨_, e⟩ | ⟨pre, k, v, post, rfl, hk, _⟩
  · exact e
  · exact absurd hk (h (k, v) (by simp))

variable {p f new}

theorem upsert_forall {Q : K × V → Prop} (l : List (K × V)) (hl : ∀ x ∈ l, Q x)
    (hf : ∀ x ∈ l, p x.1 → Q (x.1, f x.2)) (hnew : (∀ x ∈ l, ¬ p x.1) → Q new) :
    ∀ x ∈ upsert p f new l, Q x := by
  rcases upsert_cases p f new l with ⟨hn, e⟩ | ⟨pre, k, v, post, rfl, hk, e⟩
  · simp only [e, List.mem_append, List.mem_singleton, or_imp, forall_and, forall_eq]
    exact ⟨hl, hnew hn⟩
  · simp only [e, List.mem_append, List.mem_cons, or_imp, forall_and, forall_eq] at hl ⊢
    exact ⟨hl.1, hf (k, v) (by simp) hk, hl.2.2⟩

theorem upsert_exists {Q : K × V → Prop} (l : List (K × V)) (hl : ∃ x ∈ l, Q x)
    (hf : ∀ x, Q x → Q (x.1, f x.2)) : ∃ x ∈ upsert p f new l, Q x := by
  obtain ⟨x, hx, hQ⟩ := hl
  have : x ∈ upsert p f new l ∨ (x.1, f x.2) ∈ upsert p f new l := by
    rcases upsert_cases p f new l with ⟨_, e⟩ | ⟨pre, k, v, post, rfl, _, e⟩
    · simp [e, hx]
    · simp only [List.mem_append, List.mem_cons] at hx
      rcases hx with hx | rfl | hx <;> simp [*]
  rcases this with h | h
  · exact ⟨x, h, hQ⟩
  · exact ⟨_, h, hf x hQ⟩

theorem upsert_exists_new {Q : K × V → Prop} (l : List (K × V)) (hf : ∀ x : K × V, Q (x.1, f x.2))
    (hnew : Q new) : ∃ x ∈ upsert p f new l, Q x := by
  rcases upsert_cases p f new l with ⟨_, e⟩ | ⟨pre, k, v, post, rfl, _, e⟩
  · exact ⟨new, by simp [e], hnew⟩
  · exact ⟨_, by simp [e], hf (k, v)⟩

theorem upsert_pairwise {R : K → K → Prop} (hnew : ∀ k, ¬ p k → R k new.1) (l : List (K × V))
    (h : l.Pairwise fun a b => R a.1 b.1) : (upsert p f new l).Pairwise fun a b => R a.1 b.1 := by
  rcases upsert_cases p f new l with ⟨hn, e⟩ | ⟨pre, k, v, post, rfl, _, e⟩
  · rw [e, List.pairwise_append]
    exact ⟨h, by simp, fun a ha b hb => List.mem_singleton.mp hb ▸ hnew _ (hn a ha)⟩
  · simpa only [e, List.pairwise_append, List.pairwise_cons, List.mem_cons, forall_eq_or_imp] using h

theorem upsert_ids {g : K × V → List Nat} (hf : ∀ x, (g (x.1, f x.2)).Perm (g x ++ g new))
    (l : List (K × V)) : ((upsert p f new l).flatMap g).Perm (l.flatMap g ++ g new) := by
  rcases upsert_cases p f new l with ⟨_, e⟩ | ⟨pre, k, v, post, rfl, _, e⟩
  · simp [e]
  · simp only [e, List.flatMap_append, List.flatMap_cons, List.append_assoc]
    refine List.Perm.append_left _ (((hf (k, v)).append_right _).trans ?_)
    rw [List.append_assoc]
    exact List.Perm.append_left _ List.perm_append_comm

end upsert

section
variable {E C : Type} [DecidableEq E]

theorem placeSub_eq_upsert (closeB : C → C → Bool) (id : Nat) (c : C) (subs : Subs C) :
    placeSub closeB id c subs = upsert (closeB · c = true) (· ++ [id]) (c, [id]) subs := by
  induction subs with
  | nil => rfl
  | cons s rest ih => simp only [placeSub, upsert, ih]

theorem place_eq_upsert (closeB : C → C → Bool) (id : Nat) (e : E) (c : C) (g : List (E × Subs C)) :
    place closeB id e c g =
      upsert (· = e) (upsert (closeB · c = true) (· ++ [id]) (c, [id])) (e, [(c, [id])]) g := by
  rw [← funext (placeSub_eq_upsert closeB id c)]
  induction g with
  | nil => rfl
  | cons s rest ih => simp only [place, upsert, ih]

theorem place_ids (closeB : C → C → Bool) (id : Nat) (e : E) (c : C) (g : List (E × Subs C)) :
    (allIds (place closeB id e c g)).Perm (allIds g ++ [id]) := by
  rw [place_eq_upsert]
  refine upsert_ids (p := (· = e)) (g := fun p => p.2.flatMap (·.2)) (fun x => ?_) g
  exact upsert_ids (p := (closeB · c = true)) (g := (·.2)) (fun s => by simp) x.2

theorem place_nodup (closeB : C → C → Bool) (id : Nat) (e : E) (c : C) (g : List (E × Subs C))
    (h : (g.map (·.1)).Nodup) : ((place closeB id e c g).map (·.1)).Nodup := by
  rw [place_eq_upsert]
  exact List.pairwise_map.mpr
    (upsert_pairwise (p := (· = e)) (R := (· ≠ ·)) (fun _ hk => hk) g (List.pairwise_map.mp h))

theorem groupLoop_ids (closeB : C → C → Bool) (warn : Bool) (items : List (Item E C)) :
    ∀ (acc g : List (E × Subs C)), groupLoop closeB warn items acc = .ok g →
      (allIds g).Perm (allIds acc ++ fileIds items) := by
  induction items with
  | nil => intro acc g h; cases h; simp [fileIds]
  | cons it rest ih =>
    intro acc g h
    cases it with
    | file id e c =>
      refine (ih _ g h).trans ?_
      simpa [fileIds] using (place_ids closeB id e c acc).append_right (fileIds rest)
    | nonImage => exact ih _ g h
    | unreadable =>
      cases warn
      · cases h
      · exact ih _ g h

/-- **partition:** every readable image file is in exactly one group (the ids in the groups are a
    permutation of the ids of the readable image files), nothing else is -/
theorem group_partition (closeB : C → C → Bool) (warn : Bool) (items : List (Item E C))
    (g : List (E × Subs C)) (h : parseAndGroup closeB warn items = .ok g) :
    (allIds g).Perm (fileIds items) := by
  simpa [allIds] using groupLoop_ids closeB warn items [] g h

theorem groupLoop_append (closeB : C → C → Bool) (warn : Bool) (l₁ l₂ : List (Item E C))
    (acc : List (E × Subs C)) :
    groupLoop closeB warn (l₁ ++ l₂) acc =
      match groupLoop closeB warn l₁ acc with
      | .ok g => groupLoop closeB warn l₂ g
      | .raised => .raised := by
  induction l₁ generalizing acc with
  | nil => rfl
  | cons it rest ih =>
    cases it with
    | file id e c => exact ih _
    | nonImage => exact ih _
    | unreadable =>
      cases warn
      · rfl
      · exact ih _

/-- **fault isolation:** a dataset without pixels — and in warn mode an unreadable file — anywhere in
    the list is equivalent to its absence -/
theorem groupLoop_skip (closeB : C → C → Bool) (warn : Bool) (l₁ l₂ : List (Item E C))
    (bad : Item E C) (hbad : bad = .nonImage ∨ (bad = .unreadable ∧ warn = true))
    (acc : List (E × Subs C)) :
    groupLoop closeB warn (l₁ ++ bad :: l₂) acc = groupLoop closeB warn (l₁ ++ l₂) acc := by
  have hstep : ∀ g, groupLoop closeB warn (bad :: l₂) g = groupLoop closeB warn l₂ g := by
    rcases hbad with rfl | ⟨rfl, rfl⟩ <;> exact fun _ => rfl
  rw [groupLoop_append, groupLoop_append]
  cases groupLoop closeB warn l₁ acc with
  | ok g => exact hstep g
  | raised => rfl

theorem group_skip_fault (closeB : C → C → Bool) (warn : Bool) (l₁ l₂ : List (Item E C))
    (bad : Item E C) (hbad : bad = .nonImage ∨ (bad = .unreadable ∧ warn = true)) :
    parseAndGroup closeB warn (l₁ ++ bad :: l₂) = parseAndGroup closeB warn (l₁ ++ l₂) :=
  groupLoop_skip closeB warn l₁ l₂ bad hbad []

/-- strict mode: an unreadable file raises -/
theorem group_strict_raises (closeB : C → C → Bool) (l₁ l₂ : List (Item E C))
    (h : ∀ it ∈ l₁, it ≠ Item.unreadable) (acc : List (E × Subs C)) :
    groupLoop closeB false (l₁ ++ .unreadable :: l₂) acc = .raised := by
  have _ := h  -- not needed: the loop raises at the first unreadable file, wherever that is
  rw [groupLoop_append]
  cases groupLoop closeB false l₁ acc <;> rfl

/-- a file joins the first sub-result whose representative it is close to; otherwise it opens a new
    one with itself as representative -/
theorem placeSub_first_fit (closeB : C → C → Bool) (id : Nat) (c : C) (pre : Subs C) (rep : C)
    (ids : List Nat) (post : Subs C) (hpre : ∀ s ∈ pre, closeB s.1 c = false) (h : closeB rep c = true) :
    placeSub closeB id c (pre ++ (rep, ids) :: post) = pre ++ (rep, ids ++ [id]) :: post := by
  rw [placeSub_eq_upsert]
  exact upsert_first_fit _ _ _ pre rep ids post (fun s hs => by simp [hpre s hs]) h

theorem placeSub_new (closeB : C → C → Bool) (id : Nat) (c : C) (subs : Subs C)
    (h : ∀ s ∈ subs, closeB s.1 c = false) : placeSub closeB id c subs = subs ++ [(c, [id])] := by
  rw [placeSub_eq_upsert]
  exact upsert_new _ _ _ subs fun s hs => by simp [h s hs]

/-- **stacking isolates faults:** in warn mode a file that cannot join (incongruent, colliding, no
    pixels) is equivalent to its absence, provided the remaining files' ability to join does not
    depend on it; in strict mode it aborts -/
theorem stackGroup_skip (joins : List Nat → Nat → Bool) (pre : List Nat) (bad : Nat) (post : List Nat)
    (hb : ∀ a, joins a bad = false) (acc : List Nat) :
    stackGroup joins true (pre ++ bad :: post) acc = stackGroup joins true (pre ++ post) acc := by
  induction pre generalizing acc with
  | nil => simp [stackGroup, hb]
  | cons x xs ih => cases hj : joins acc x <;> simp [stackGroup, hj, ih]

theorem stackGroup_strict (joins : List Nat → Nat → Bool) (bad : Nat) (post acc : List Nat)
    (hb : joins acc bad = false) : stackGroup joins false (bad :: post) acc = none := by
  simp [stackGroup, hb]

end
end Grp
