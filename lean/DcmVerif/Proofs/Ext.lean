import DcmVerif.Model.Ext
import DcmVerif.Proofs.Key.Shape
import DcmVerif.Proofs.Key.Dict
/-! Extension-level lemmas: the decidable shape predicate is `Consistent`; `make_empty` yields a
valid extension whose base dictionaries are exactly those its valid classes need; `filter_meta` removes
exactly the keys it is told to and keeps the extension valid (C14). -/
set_option autoImplicit false

theorem Shp.okB_iff (sh : Shp) : sh.okB = true ↔ Consistent sh := by
  simp only [Shp.okB, Bool.and_eq_true, decide_eq_true_eq, Bool.or_eq_true, beq_iff_eq,
    bne_iff_ne, ne_eq]
  constructor
  · rintro ⟨⟨⟨⟨⟨⟨⟨⟨⟨hS, hT⟩, hV⟩, hnd⟩, h3⟩, h4⟩, hsl⟩, htime⟩, hvec⟩, htr⟩
    exact { hS := hS, hT := hT, hV := hV, hnd := or_assoc.mp hnd, h3 := fun e => h3.resolve_left (· e),
            h4 := fun e => h4.resolve_left (· e), hsl := hsl, htime := by rw [htime]; simp,
            hvec := by rw [hvec]; simp, trimmed4 := fun e => htr.resolve_left (· e) }
  · intro hc
    refine ⟨⟨⟨⟨⟨⟨⟨⟨⟨hc.hS, hc.hT⟩, hc.hV⟩, or_assoc.mpr hc.hnd⟩, Decidable.not_or_of_imp hc.h3⟩,
      Decidable.not_or_of_imp hc.h4⟩, hc.hsl⟩, ?_⟩, ?_⟩, Decidable.not_or_of_imp hc.trimmed4⟩
    · have := hc.htime; cases h : sh.hasTime <;> simp_all
    · have := hc.hvec; cases h : sh.hasVector <;> simp_all

namespace DExt
variable {κ α : Type} [DecidableEq κ] [DecidableEq α]

theorem makeEmpty_ok {shape : List Nat} {sd : Option Nat} {e : DExt κ α}
    (h : makeEmpty shape sd = .ok e) :
    (3 ≤ shape.length ∧ shape.length < 6) ∧
    e = { shape := shape, sliceDim := sd
          hasTime := decide (3 < shape.length) && (shape.getD 3 1 != 1 || shape.length == 4)
          hasVector := decide (4 < shape.length), ents := [] } := by
  unfold makeEmpty at h
  split at h
  · cases h
  · split at h
    · cases h
    · rename_i hlen _
      injection h with h
      exact ⟨by simpa using hlen, h.symm⟩

/-- the bases `make_empty` creates are exactly those the valid classes of the shape need
    (what `check_valid` demands; with the F1 fix also for 4-D shapes with T = 1) -/
theorem makeEmpty_bases (shape : List Nat) (sd : Option Nat) (e : DExt κ α)
    (h : makeEmpty shape sd = .ok e) :
    ∀ c, c ∈ validClasses e.shp → basePresent e.shp c = true := by
  obtain ⟨hl, rfl⟩ := makeEmpty_ok h
  intro c hc
  have := (mem_validClasses _ c).1 hc
  have h3 : shape.length ≠ 3 → 3 < shape.length := fun h => Nat.lt_of_le_of_ne hl.1 h.symm
  cases c
  case gconst | gslices => rfl
  case tsamples | tslices =>
    exact Bool.and_eq_true_iff.2 ⟨decide_eq_true (h3 this.1),
      Bool.or_eq_true_iff.2 (this.2.symm.imp bne_iff_ne.2 beq_iff_eq.2)⟩
  case vsamples | vslices =>
    exact decide_eq_true (Nat.lt_of_le_of_ne (h3 this.1) (Ne.symm this.2))

theorem makeEmpty_validB (shape : List Nat) (sd : Option Nat) (e : DExt κ α)
    (h : makeEmpty shape sd = .ok e) : e.validB = true := by
  obtain ⟨_, rfl⟩ := makeEmpty_ok h
  simp [validB]

/-- `make_empty` refuses shapes that are not 3-, 4- or 5-dimensional and slice dims outside 0..2 -/
theorem makeEmpty_refuses (shape : List Nat) (sd : Option Nat)
    (h : ¬ (3 ≤ shape.length ∧ shape.length < 6) ∨ ∃ d, sd = some d ∧ 3 ≤ d) :
    makeEmpty (κ := κ) (α := α) shape sd = .valueError := by
  unfold makeEmpty
  rcases h with h | ⟨d, rfl, hd⟩
  · simp [h]
  · by_cases hl : (3 ≤ shape.length ∧ shape.length < 6)
    · simp [hl, hd]
    · simp [hl]

/-- **C14, `filter_meta`:** after filtering the entries are exactly the old entries whose key the
    filter does not remove — in every classification, values untouched -/
theorem filterMeta_ents (e : DExt κ α) (drop : κ → Bool) (x : κ × Cls × List α) :
    x ∈ (e.filterMeta drop).ents ↔ x ∈ e.ents ∧ drop x.1 = false := by
  simp [filterMeta, List.mem_filter]

theorem filterMeta_keys (e : DExt κ α) (drop : κ → Bool) (k : κ) :
    k ∈ (e.filterMeta drop).ents.map (·.1) ↔ k ∈ e.ents.map (·.1) ∧ drop k = false := by
  simp only [List.mem_map, filterMeta_ents]
  constructor
  · rintro ⟨x, ⟨hx, hd⟩, rfl⟩; exact ⟨⟨x, hx, rfl⟩, hd⟩
  · rintro ⟨⟨x, hx, rfl⟩, hd⟩; exact ⟨x, ⟨hx, hd⟩, rfl⟩

theorem filterMeta_geometry (e : DExt κ α) (drop : κ → Bool) :
    (e.filterMeta drop).shape = e.shape ∧ (e.filterMeta drop).sliceDim = e.sliceDim ∧
    (e.filterMeta drop).hasTime = e.hasTime ∧ (e.filterMeta drop).hasVector = e.hasVector :=
  ⟨rfl, rfl, rfl, rfl⟩

theorem filterMeta_validB (e : DExt κ α) (drop : κ → Bool) (h : e.validB = true) :
    (e.filterMeta drop).validB = true := by
  simp only [validB, Bool.and_eq_true, List.all_eq_true, decide_eq_true_eq] at h ⊢
  obtain ⟨h1, h2⟩ := h
  refine ⟨?_, ?_⟩
  · intro x hx
    have hx' : x ∈ e.ents := ((filterMeta_ents e drop x).mp hx).1
    have := h1 x hx'
    simpa [filterMeta, shp] using this
  · have hsub : ((e.filterMeta drop).ents.map (·.1)).Sublist (e.ents.map (·.1)) := by
      simp only [filterMeta]
      exact List.Sublist.map _ List.filter_sublist
    exact List.Nodup.sublist hsub h2

end DExt
