import DcmVerif.Generated.Code_stackadd
import DcmVerif.Proofs.CodeLemmas
/-! `DicomStack.add_dcm` and the congruence checks as translated from dcmstack.py are the model's `Stk.addDcm`. -/
set_option autoImplicit false

namespace Src
open Stk

theorem closeList_split : ∀ (n : Nat) (a b : List Int),
    (closeList (a.take n) (b.take n) && closeList (a.drop n) (b.drop n)) = closeList a b
  | 0, _, _ => by simp [closeList]
  | _ + 1, [], [] => rfl
  | _ + 1, [], _ :: _ => rfl
  | _ + 1, _ :: _, [] => rfl
  | n + 1, x :: xs, y :: ys => by
    simp only [List.take_succ_cons, List.drop_succ_cons, closeList, Bool.and_assoc,
      closeList_split n xs ys]

theorem closeMeta_ps (c : Cand) : c.closeMeta "PixelSpacing" = c.geom.take 2 := by rfl
theorem closeMeta_iop (c : Cand) : c.closeMeta "ImageOrientationPatient" = c.geom.drop 2 := by rfl
theorem eqMeta_rows (c : Cand) : c.eqMeta "Rows" = c.rows := by rfl
theorem eqMeta_cols (c : Cand) : c.eqMeta "Columns" = c.cols := by rfl

theorem chk_close_eq (keys : List String) (m1 m2 : String → List Int) :
    Py.chk_close keys m1 m2 =
      if keys.all (fun k => closeList (m1 k) (m2 k)) then .ok () else .error PyErr.incongruentImage := by
  unfold Py.chk_close
  exact forIn_guard_then PyErr.incongruentImage (fun k => closeList (m1 k) (m2 k)) _ _ _ fun _ _ _ => guard_pure

theorem chk_equal_eq (keys : List String) (m1 m2 : String → Nat) :
    Py.chk_equal keys m1 m2 =
      if keys.all (fun k => m1 k == m2 k) then .ok () else .error PyErr.incongruentImage := by
  unfold Py.chk_equal
  exact forIn_guard_then PyErr.incongruentImage (fun k => m1 k == m2 k) _ _ _ fun _ _ _ => guard_pure

/-- **`_chk_congruent` as written in dcmstack.py raises `IncongruentImageError` exactly when the model's `incongruentWith` says so** -/
theorem chk_congruent_eq (ref : Option Cand) (c : Cand) :
    Py.chk_congruent ref c = if incongruentWith ref c then .error PyErr.incongruentImage else .ok () := by
  cases ref with
  | none => rfl
  | some r =>
    simp only [Py.chk_congruent, chk_close_eq, chk_equal_eq, List.all_cons, List.all_nil, Bool.and_true,
      closeMeta_ps, closeMeta_iop, eqMeta_rows, eqMeta_cols, incongruentWith, congruent,
      ← closeList_split 2 c.geom r.geom]
    rw [Bool.and_assoc]
    cases closeList (c.geom.take 2) (r.geom.take 2) && closeList (c.geom.drop 2) (r.geom.drop 2) <;>
      cases c.rows == r.rows && c.cols == r.cols <;> rfl

/-- how the model's outcome of one `add_dcm` call shows in Python: the attributes afterwards, and the exception raised if any -/
def addResult : AddSt × AddOut → AddSt × Option PyErr
  | (st, .ok) => (st, none)
  | (st, .nonImage) => (st, some PyErr.nonImageDataSet)
  | (st, .incongruent) => (st, some PyErr.incongruentImage)
  | (st, .collision) => (st, some PyErr.imageCollision)

/-- **`add_dcm` as written in dcmstack.py is the model's `addDcm`**: same refusals (in the same order of precedence), the
    attributes untouched by a refused dataset, the same recorded state for an accepted one — for a candidate whose sorting tuple
    holds the ordinates the orderings compute (None without an ordering) -/
theorem add_dcm_eq (tO vO : Bool) (noneCode tOrd vOrd : Int) (st : AddSt) (c : Cand)
    (ht : c.f.t = if tO then tOrd else noneCode) (hv : c.f.v = if vO then vOrd else noneCode) :
    Py.add_dcm tO vO noneCode tOrd vOrd st c = addResult (addDcm (tO || vO) st c) := by
  unfold Py.add_dcm addDcm
  cases hi : c.isImage
  · rfl
  · simp only [Bool.not_true, Bool.false_eq_true, if_false, chk_congruent_eq]
    cases hc : incongruentWith st.ref c
    · have htup : ((if vO then vOrd else noneCode), (if tO then tOrd else noneCode), c.f.p) =
          tupleOf c.f := by
        rw [← ht, ← hv]; rfl
      -- with the orderings known the tuple built is the candidate's; what is left differs by
      -- whether the cell is taken and whether there is a reference input yet
      cases tO <;> cases vO <;> simp only [Bool.false_eq_true, ↓reduceIte] at htup ⊢ <;>
        rw [htup, List.contains_eq_mem] <;>
        generalize decide (tupleOf c.f ∈ st.tuples) = taken <;>
        cases taken <;> cases st.ref <;> rfl
    · rfl

/-! the translated `add_dcm` computes (tests, not theorems): a first dataset becomes the reference input; a second one for the same
    cell collides under an explicit ordering; a dataset of another matrix size is incongruent -/
def exCand (p : Int) (rows : Nat) : Cand :=
  { isImage := true, rows := rows, cols := 4, geom := [1000000, 1000000, 1000000, 0, 0, 0, 1000000, 0],
    f := { v := 0, t := 7, p := p, id := 1 }, tr := some 2000, pe := some 1 }

example : (Py.add_dcm true false 0 7 0 AddSt.init (exCand 3 4)).1.ref = some (exCand 3 4) := by rfl
example : (Py.add_dcm true false 0 7 0 (Py.add_dcm true false 0 7 0 AddSt.init (exCand 3 4)).1 (exCand 3 4)).2 =
    some PyErr.imageCollision := by rfl
example : (Py.add_dcm true false 0 7 0 (Py.add_dcm true false 0 7 0 AddSt.init (exCand 3 4)).1 (exCand 4 5)).2 =
    some PyErr.incongruentImage := by rfl

end Src
