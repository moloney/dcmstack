import DcmVerif.Proofs.Key.Lists
import DcmVerif.Proofs.Key.Shape
/-! What a key state means: a classification lays the values of a function `(slice, time, vector) →
value` out in a list through its index arithmetic (`proj`, `mult`); `Tab` says a list tabulates a
function in the layout of a class, `Den` that a key state is valid for a shape and reads a function
on the box of that shape. Every theorem about an operation of the extension states which function its
result denotes. -/
set_option autoImplicit false
open Cls

/-! ### index arithmetic of the classes -/

def Box (sh : Shp) (s t v : Nat) : Prop := s < sh.S ∧ t < sh.T ∧ v < sh.V

theorem proj_widen (sh : Shp) (wf : WF sh) (hsl : sh.hasSlice = true) {c new : Cls}
    (h : new ∈ preserving (some c)) {s t v : Nat} (hb : Box sh s t v) :
    mult sh new = mult sh c * (mult sh new / mult sh c) ∧ 0 < mult sh new / mult sh c ∧
    proj sh s t v c = if perSlice c then proj sh s t v new % mult sh c
      else proj sh s t v new / (mult sh new / mult sh c) := by
  obtain ⟨hS, hT, hV⟩ := wf
  obtain ⟨hs, ht, hv⟩ := hb
  have hST := Nat.mul_pos hS hT
  have hTV := Nat.mul_pos hT hV
  have lt2 := lt_mul_of' _ _ _ _ ht hv
  have lt2' := lt_mul_of' _ _ _ _ hs ht
  have lt3 := lt_mul_of' _ _ _ _ hs lt2
  have e3 := radix_assoc s sh.S t sh.T v
  -- the rows of `_preserving_changes`, entry by entry
  cases c <;> simp only [preserving, List.mem_cons, List.not_mem_nil, or_false] at h <;>
    rcases h with rfl | rfl | rfl | rfl | rfl <;>
    simp only [mult, proj, perSlice, hsl, if_true, Nat.div_one, Nat.one_mul, Bool.false_eq_true,
      if_false, true_and]
  -- a constant widens to anything: every index falls into the one block
  · exact ⟨hV, (Nat.div_eq_of_lt hv).symm⟩
  · exact ⟨hTV, (Nat.div_eq_of_lt lt2).symm⟩
  · exact ⟨hS, (Nat.div_eq_of_lt hs).symm⟩
  · exact ⟨hST, (Nat.div_eq_of_lt lt2').symm⟩
  · exact ⟨Nat.mul_pos hST hV, (Nat.div_eq_of_lt (by rw [Nat.mul_assoc]; exact lt3)).symm⟩
  -- time samples → global slices: each value `S` times
  · rw [Nat.mul_assoc, Nat.mul_div_cancel _ hTV, add_mul_div' _ _ _ hs]
    exact ⟨Nat.mul_comm _ _, hS, rfl⟩
  -- time slices → vector slices, global slices: the `S` values over and over
  · rw [Nat.mul_div_cancel_left _ hS, add_mul_mod' _ _ _ hs]
    exact ⟨rfl, hT, rfl⟩
  · rw [Nat.mul_assoc, Nat.mul_div_cancel_left _ hS, add_mul_mod' _ _ _ hs]
    exact ⟨rfl, hTV, rfl⟩
  -- vector samples → time samples, global slices
  · rw [Nat.mul_div_cancel _ hV, add_mul_div' _ _ _ ht]
    exact ⟨Nat.mul_comm _ _, hT, rfl⟩
  · rw [Nat.mul_div_cancel _ hV, e3, add_mul_div' _ _ _ lt2']
    exact ⟨Nat.mul_comm _ _, hST, rfl⟩
  -- vector slices → global slices
  · rw [Nat.mul_div_cancel_left _ hST, e3, add_mul_mod' _ _ _ lt2']
    exact ⟨rfl, hV, rfl⟩

theorem constPeriod_none {sh : Shp} {c d : Cls} (h : constPeriod sh c d = none) : d = gconst := by
  cases d
  case gconst => rfl
  all_goals cases c <;> cases h

/-- dividing the index by the period `_get_const_period` returns gives the index in the destination
    class — for every entry of `_const_tests` but one: for vector slices → time samples the code's
    period is the number of slices, which gives `t`, and the time-samples index is `t + T·v`; the two
    agree only with a single vector component. `hbug` excludes that move wherever it appears below. -/
theorem proj_narrow_const (sh : Shp) (wf : WF sh) (hsl : sh.hasSlice = true) {c d : Cls} {q : Nat}
    (hmem : d ∈ constTests c) (hq : constPeriod sh c d = some q)
    (hbug : ¬ (c = vslices ∧ d = tsamples ∧ 1 < sh.V)) {s t v : Nat} (hb : Box sh s t v) :
    mult sh c = q * mult sh d ∧ proj sh s t v c / q = proj sh s t v d := by
  obtain ⟨hS, hT, hV⟩ := wf
  obtain ⟨hs, ht, hv⟩ := hb
  -- the rows of `_const_tests`; a move to a global constant has no period
  cases c <;> simp only [constTests, List.mem_cons, List.not_mem_nil, or_false] at hmem <;>
    rcases hmem with rfl | hmem <;> try cases hq
  · -- global slices → vector samples, time samples
    rcases hmem with rfl | rfl <;> cases hq <;> simp only [proj, mult, hsl, if_true]
    · rw [Nat.mul_div_cancel _ hV, radix_assoc, add_mul_div' _ _ _ (lt_mul_of' _ _ _ _ hs ht)]
      exact ⟨rfl, rfl⟩
    · rw [Nat.mul_assoc, Nat.mul_div_cancel _ (Nat.mul_pos hT hV), add_mul_div' _ _ _ hs]
      exact ⟨rfl, rfl⟩
  · -- time samples → vector samples
    subst hmem; cases hq
    exact ⟨by simp only [mult], add_mul_div' _ _ _ ht⟩
  · -- vector slices → time samples reads the right value only when there is one vector component
    subst hmem; cases hq
    have hV1 : sh.V = 1 := by
      rcases Nat.lt_or_ge 1 sh.V with h1 | h1
      · exact absurd ⟨rfl, rfl, h1⟩ hbug
      · omega
    have hv0 : v = 0 := by omega
    simp only [proj, mult, hsl, if_true]
    rw [add_mul_div' _ _ _ hs, hV1, hv0]; simp

theorem proj_narrow_repeat (sh : Shp) (hsl : sh.hasSlice = true) {c d : Cls}
    (hmem : d ∈ repeatTests c) {s t v : Nat} (hb : Box sh s t v) :
    proj sh s t v c % mult sh d = proj sh s t v d := by
  obtain ⟨hs, ht, hv⟩ := hb
  cases c <;> simp only [repeatTests, List.mem_cons, List.not_mem_nil, or_false] at hmem
  · -- global slices → time slices, vector slices
    rcases hmem with rfl | rfl <;> simp only [proj, mult, hsl, if_true]
    · exact add_mul_mod' _ _ _ hs
    · rw [radix_assoc]; exact add_mul_mod' _ _ _ (lt_mul_of' _ _ _ _ hs ht)
  · -- vector slices → time slices
    subst hmem
    simp only [proj, mult, hsl, if_true]
    exact add_mul_mod' _ _ _ hs

theorem proj_lt_mult (sh : Shp) (hsl : sh.hasSlice = true) (c : Cls) {s t v : Nat}
    (hb : Box sh s t v) : proj sh s t v c < mult sh c := by
  obtain ⟨hs, ht, hv⟩ := hb
  have lt2 := lt_mul_of' _ _ _ _ ht hv
  have lt2' := lt_mul_of' _ _ _ _ hs ht
  cases c <;> simp only [proj, mult, hsl, if_true] <;>
    first | omega | exact lt2 | exact lt2' | (rw [Nat.mul_assoc]; exact lt_mul_of' _ _ _ _ hs lt2)

theorem mult_pos (sh : Shp) (wf : WF sh) (hsl : sh.hasSlice = true) (c : Cls) : 0 < mult sh c :=
  Nat.zero_lt_of_lt (proj_lt_mult sh hsl c ⟨wf.hS, wf.hT, wf.hV⟩)

theorem proj_surj (sh : Shp) (wf : WF sh) (hsl : sh.hasSlice = true) (c : Cls) (i : Nat)
    (hi : i < mult sh c) : ∃ s t v, Box sh s t v ∧ proj sh s t v c = i := by
  obtain ⟨hS, hT, hV⟩ := wf
  cases c <;> simp only [mult, hsl, if_true] at hi <;> simp only [proj]
  · exact ⟨0, 0, 0, ⟨hS, hT, hV⟩, by omega⟩
  · obtain ⟨s, t, v, hs, ht, hv, rfl⟩ := radix_decomp sh.S sh.T sh.V i hS hT (by rw [← Nat.mul_assoc]; exact hi)
    exact ⟨s, t, v, ⟨hs, ht, hv⟩, rfl⟩
  · exact ⟨0, i % sh.T, i / sh.T, ⟨hS, Nat.mod_lt _ hT, Nat.div_lt_of_lt_mul hi⟩,
      by have := Nat.div_add_mod i sh.T; omega⟩
  · exact ⟨i, 0, 0, ⟨hi, hT, hV⟩, rfl⟩
  · exact ⟨0, 0, i, ⟨hS, hT, hi⟩, rfl⟩
  · exact ⟨i % sh.S, i / sh.S, 0, ⟨Nat.mod_lt _ hS, Nat.div_lt_of_lt_mul hi, hV⟩,
      by have := Nat.div_add_mod i sh.S; omega⟩

section den
variable {α : Type}

/-- the list `l` tabulates `f` in the layout of classification `c` -/
def Tab (sh : Shp) (c : Cls) (l : List α) (f : Nat → Nat → Nat → Option α) : Prop :=
  l.length = mult sh c ∧ ∀ s t v, Box sh s t v → l[proj sh s t v c]? = f s t v

/-- the key state is valid for the shape and reads `f` at every position of the image (an absent key
    reads `null`) -/
def Den (null : α) (sh : Shp) (ks : KeyState α) (f : Nat → Nat → Nat → Option α) : Prop :=
  ValidK sh ks ∧ ∀ s t v, Box sh s t v → lookupKS null sh ks s t v = f s t v

theorem Tab.self (sh : Shp) (c : Cls) (l : List α) (h : l.length = mult sh c) :
    Tab sh c l (fun s t v => l[proj sh s t v c]?) := ⟨h, fun _ _ _ _ => rfl⟩

theorem Tab.congr {sh : Shp} {c : Cls} {l : List α} {f g : Nat → Nat → Nat → Option α}
    (h : Tab sh c l f) (hfg : ∀ s t v, Box sh s t v → f s t v = g s t v) : Tab sh c l g :=
  ⟨h.1, fun s t v hb => (h.2 s t v hb).trans (hfg s t v hb)⟩

theorem Tab.ext {sh : Shp} (wf : WF sh) (hsl : sh.hasSlice = true) {c : Cls} {l₁ l₂ : List α}
    {f : Nat → Nat → Nat → Option α} (h₁ : Tab sh c l₁ f) (h₂ : Tab sh c l₂ f) : l₁ = l₂ := by
  apply List.ext_getElem?
  intro i
  by_cases hi : i < mult sh c
  · obtain ⟨s, t, v, hb, rfl⟩ := proj_surj sh wf hsl c i hi
    rw [h₁.2 s t v hb, h₂.2 s t v hb]
  · rw [List.getElem?_eq_none (by rw [h₁.1]; omega), List.getElem?_eq_none (by rw [h₂.1]; omega)]

theorem Tab.gconst_ne {sh osh : Shp} {lv ov : List α} {f g : Nat → Nat → Nat → Option α}
    (hl : Tab sh gconst lv f) (ho : Tab osh gconst ov g) (hne : lv ≠ ov) {s t v s' t' v' : Nat}
    (hb : Box sh s t v) (hb' : Box osh s' t' v') : f s t v ≠ g s' t' v' := by
  rw [← hl.2 s t v hb, ← ho.2 s' t' v' hb']
  match lv, ov, hl.1, ho.1 with
  | [a], [b], _, _ => intro e; simp [proj] at e; exact hne (by rw [e])

theorem den_some {null : α} {sh : Shp} {c : Cls} {l : List α} {f : Nat → Nat → Nat → Option α} :
    Den null sh (some (c, l)) f ↔ c ∈ validClasses sh ∧ Tab sh c l f :=
  ⟨fun h => ⟨h.1.1, h.1.2, h.2⟩, fun h => ⟨⟨h.1, h.2.1⟩, h.2.2⟩⟩

theorem den_none {null : α} {sh : Shp} {f : Nat → Nat → Nat → Option α} :
    Den null sh none f ↔ ∀ s t v, Box sh s t v → f s t v = some null :=
  ⟨fun h s t v hb => (h.2 s t v hb).symm, fun h => ⟨trivial, fun s t v hb => (h s t v hb).symm⟩⟩

theorem Den.self {null : α} {sh : Shp} {ks : KeyState α} (h : ValidK sh ks) :
    Den null sh ks (lookupKS null sh ks) := ⟨h, fun _ _ _ _ => rfl⟩

theorem Den.congr {null : α} {sh : Shp} {ks : KeyState α} {f g : Nat → Nat → Nat → Option α}
    (h : Den null sh ks f) (hfg : ∀ s t v, Box sh s t v → f s t v = g s t v) : Den null sh ks g :=
  ⟨h.1, fun s t v hb => (h.2 s t v hb).trans (hfg s t v hb)⟩

theorem Den.of_run {null : α} {op : Except Err (KeyState α)} {sh : Shp}
    {f : Nat → Nat → Nat → Option α} {a : KeyState α}
    (hrun : ∃ r, op = .ok r ∧ Den null sh r f) (h : op = .ok a) : Den null sh a f := by
  obtain ⟨r, hr, hp⟩ := hrun
  rw [h] at hr; injection hr with hr; subst hr; exact hp

theorem getChangedK_none (null : α) (sh : Shp) (new : Cls) :
    getChangedK null sh none new = getChangedK null sh (some (gconst, [null])) new := by
  cases new
  · simp [getChangedK, preserving, mult, repeatEach]
  all_goals rfl

theorem den_absent {null : α} {sh : Shp} {f : Nat → Nat → Nat → Option α} :
    Den null sh none f ↔ Den null sh (some (gconst, [null])) f := by
  rw [den_none, den_some]
  constructor
  · intro h; exact ⟨gconst_valid sh, rfl, fun s t v hb => (h s t v hb).symm⟩
  · intro h s t v hb; exact (h.2.2 s t v hb).symm

theorem getChangedK_same (null : α) (sh : Shp) (c : Cls) (vals : List α) :
    getChangedK null sh (some (c, vals)) c = .ok vals := by
  simp [getChangedK]

theorem changeClassK_eq (null : α) (sh : Shp) (ks : KeyState α) (new : Cls) :
    changeClassK null sh ks new = (getChangedK null sh ks new).map fun v => some (new, v) := by
  unfold changeClassK
  split
  · rename_i hsame
    match ks, hsame with
    | some (c, v), hsame =>
      obtain rfl : c = new := by simpa using hsame
      rw [getChangedK_same]; rfl
  · cases getChangedK null sh ks new <;> rfl

theorem gconst_not_preserving (c : Cls) : gconst ∉ preserving (some c) := by
  cases c <;> simp [preserving]

/-- `hnew`: for a class the shape does not allow the code takes multiplicity 1 -/
theorem getChangedK_widen (null : α) (sh : Shp) {c new : Cls} (vals : List α) (hne : c ≠ new)
    (hp : new ∈ preserving (some c)) (hnew : new ∈ validClasses sh ∨ mult sh new = 1)
    (hm : mult sh new ≠ 0) :
    getChangedK null sh (some (c, vals)) new =
      .ok (if perSlice c then tile (mult sh new / mult sh c) vals
        else repeatEach (mult sh new / mult sh c) vals) := by
  have hng : new ≠ gconst := fun e => gconst_not_preserving c (e ▸ hp)
  have hmult : (if new ∈ validClasses sh then mult sh new else 1) = mult sh new := by
    rcases hnew with h | h
    · rw [if_pos h]
    · rw [h]; split <;> rfl
  simp only [getChangedK, Option.map_some, Option.some.injEq, hne, if_false, hp, not_true_eq_false,
    hmult, hm, hng]

/-- **`_get_changed_class` never changes what a lookup returns** -/
theorem getChanged_tab (null : α) (sh : Shp) (wf : WF sh) (hsl : sh.hasSlice = true)
    {ks : KeyState α} {f : Nat → Nat → Nat → Option α} (hd : Den null sh ks f) {new : Cls}
    (hnew : new ∈ validClasses sh ∨ mult sh new = 1) {out : List α}
    (h : getChangedK null sh ks new = .ok out) : Tab sh new out f := by
  have key : ∀ c vals, Den null sh (some (c, vals)) f →
      getChangedK null sh (some (c, vals)) new = .ok out → Tab sh new out f := by
    intro c vals hd h
    obtain ⟨_, hlen, hlk⟩ := den_some.mp hd
    by_cases hne : c = new
    · subst hne
      rw [getChangedK_same] at h
      injection h with h; subst h
      exact ⟨hlen, hlk⟩
    · by_cases hp : new ∈ preserving (some c)
      · rw [getChangedK_widen null sh vals hne hp hnew (Nat.pos_iff_ne_zero.mp (mult_pos sh wf hsl new))] at h
        injection h with h; subst h
        have hw := fun s t v hb => proj_widen sh wf hsl hp (s := s) (t := t) (v := v) hb
        obtain ⟨hmul, hk, _⟩ := hw 0 0 0 ⟨wf.hS, wf.hT, wf.hV⟩
        cases hps : perSlice c with
        | true =>
          simp only [hps, if_true] at hw ⊢
          refine ⟨by rw [length_tile, hlen, Nat.mul_comm]; exact hmul.symm, fun s t v hb => ?_⟩
          rw [getElem?_tile _ _ _ (by rw [hlen, Nat.mul_comm, ← hmul]; exact proj_lt_mult sh hsl new hb),
            hlen, ← (hw s t v hb).2.2]
          exact hlk s t v hb
        | false =>
          simp only [hps, Bool.false_eq_true, if_false] at hw ⊢
          refine ⟨by rw [length_repeatEach, hlen]; exact hmul.symm, fun s t v hb => ?_⟩
          rw [getElem?_repeatEach _ _ _ hk, ← (hw s t v hb).2.2]
          exact hlk s t v hb
      · simp [getChangedK, hne, hp] at h
  cases ks with
  -- an absent key is the constant `null`
  | none => rw [getChangedK_none] at h; exact key _ _ (den_absent.mp hd) h
  | some p => exact key p.1 p.2 hd h

/-- appending is right when the merged coordinate is the slowest of the class: growing the shape
    leaves the old indices where they are (`Or.inl`) and the new input's values follow (`Or.inr`) -/
theorem Tab.append {sh osh sh' : Shp} {d : Cls} {lv ov : List α}
    {f g h : Nat → Nat → Nat → Option α} (hl : Tab sh d lv f) (ho : Tab osh d ov g)
    (hm : mult sh' d = mult sh d + mult osh d)
    (hpos : ∀ s t v, Box sh' s t v →
      (Box sh s t v ∧ proj sh' s t v d = proj sh s t v d ∧ h s t v = f s t v) ∨
      (∃ s₀ t₀ v₀, Box osh s₀ t₀ v₀ ∧ proj sh' s t v d = mult sh d + proj osh s₀ t₀ v₀ d ∧
        h s t v = g s₀ t₀ v₀)) (hsl : sh.hasSlice = true) :
    Tab sh' d (lv ++ ov) h := by
  refine ⟨by rw [List.length_append, hl.1, ho.1, hm], fun s t v hb => ?_⟩
  rcases hpos s t v hb with ⟨hb', hp, hh⟩ | ⟨s₀, t₀, v₀, hb', hp, hh⟩
  · rw [hp, hh, List.getElem?_append_left (hl.1 ▸ proj_lt_mult sh hsl d hb')]
    exact hl.2 s t v hb'
  · rw [hp, hh, List.getElem?_append_right (by rw [hl.1]; omega), hl.1, Nat.add_sub_cancel_left]
    exact ho.2 s₀ t₀ v₀ hb'

/-- merging global-slices lists by interleaving one new slice per volume -/
theorem Tab.interleave {sh : Shp} {lv ov : List α} {f g : Nat → Nat → Nat → Option α}
    (hsl : sh.hasSlice = true) (hl : Tab sh gslices lv f) (ho : Tab { sh with S := 1 } gslices ov g) :
    Tab { sh with S := sh.S + 1 } gslices (interleave sh.S 1 (sh.T * sh.V) lv ov)
      (fun s t v => if s < sh.S then f s t v else g 0 t v) := by
  have hl' : lv.length = sh.S * (sh.T * sh.V) := by
    rw [hl.1]; simp only [mult, hsl, if_true]; rw [Nat.mul_assoc]
  have ho' : ov.length = 1 * (sh.T * sh.V) := by
    rw [ho.1]; simp only [mult, hsl, if_true]; rw [Nat.mul_assoc]
  refine ⟨?_, fun s t v ⟨hs, ht, hv⟩ => ?_⟩
  · rw [length_interleave _ _ _ _ _ hl' ho']
    simp only [mult, hsl, if_true]
    rw [Nat.mul_assoc]
  · simp only [proj]
    rw [getElem?_interleave _ _ _ _ _ hl' ho' _ _ (lt_mul_of' _ _ _ _ ht hv) hs]
    by_cases h : s < sh.S
    · rw [if_pos h, if_pos h, ← hl.2 s t v ⟨h, ht, hv⟩]
      rfl
    · rw [if_neg h, if_neg h, ← ho.2 0 t v ⟨Nat.one_pos, ht, hv⟩]
      simp only [proj, Nat.zero_add]
      rw [show s - sh.S = 0 by have : s < sh.S + 1 := hs; omega, Nat.zero_add]
end den
