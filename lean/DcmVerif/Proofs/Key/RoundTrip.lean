import DcmVerif.Proofs.Key.Subset
import DcmVerif.Proofs.Key.Minimal
/-! C05 per key: splitting a canonical key and merging the pieces back in order reproduces it — same
class, same values. Both the key and the merged result are valid, read the same everywhere and sit
in a minimal class; that determines a key state. -/
set_option autoImplicit false
open Cls

section
variable {α : Type}

theorem rank_inj (a b : Cls) (h : rank a = rank b) : a = b := by
  have inv : ∀ c, [gconst, vsamples, tsamples, tslices, vslices, gslices][rank c]? = some c := by
    intro c; cases c <;> rfl
  have := inv a
  rw [h, inv b] at this
  exact (Option.some.inj this).symm

theorem repOK_self (null : α) (sh : Shp) (c : Cls) (vals : List α) :
    RepOK sh (fun s t v => lookupKS null sh (some (c, vals)) s t v) c :=
  fun _ _ _ _ _ _ _ _ _ _ _ _ hp => by simp only [lookupKS]; rw [hp]

/-- **the canonical form is unique (C05):** two valid key states that read the same everywhere,
    each in a class that no earlier class can replace — and the first not a `null` constant, which
    `_simplify` would have deleted — are the same key state -/
theorem canonical_unique (null : α) (sh : Shp) (hc : Consistent sh) {ks r : KeyState α}
    (hv : ValidK sh ks) (hcan : Canonical null sh ks) (hvr : ValidK sh r) (hmin : Minimal null sh r)
    (hlook : ∀ s t v, Box sh s t v → lookupKS null sh r s t v = lookupKS null sh ks s t v)
    (hnone : ks = none → r = none) : r = ks := by
  have wf : WF sh := hc.toWFnd.toWF
  rcases ks with _ | ⟨c, vals⟩
  · exact hnone rfl
  obtain ⟨hcv, hcl⟩ := hv
  obtain ⟨hcmin, hnn⟩ := hcan
  have hrep : ∀ e, RepOK sh (fun s t v => lookupKS null sh r s t v) e ↔
      RepOK sh (fun s t v => lookupKS null sh (some (c, vals)) s t v) e := fun e =>
    ⟨RepOK.congr hlook, RepOK.congr fun s t v hb => (hlook s t v hb).symm⟩
  rcases r with _ | ⟨c', vals'⟩
  · -- then the key reads `null` everywhere, so it is a constant, and the constant `null`
    exfalso
    have hnull : ∀ s t v, Box sh s t v → lookupKS null sh (some (c, vals)) s t v = some null :=
      fun s t v hb => (hlook s t v hb).symm
    have hcg : c = gconst := Classical.byContradiction fun hne =>
      hcmin gconst rfl (Nat.pos_of_ne_zero fun h0 => hne (rank_inj c gconst h0))
        fun s t v s' t' v' hs ht hv hs' ht' hv' _ =>
          (hnull s t v ⟨hs, ht, hv⟩).trans (hnull s' t' v' ⟨hs', ht', hv'⟩).symm
    subst hcg
    obtain ⟨x, rfl⟩ := List.length_eq_one_iff.mp hcl
    exact hnn ⟨rfl, by rw [Option.some.inj (hnull 0 0 0 ⟨wf.hS, wf.hT, wf.hV⟩)]⟩
  · -- each class can hold the values, so neither ranks below the other
    obtain ⟨hcv', hcl'⟩ := hvr
    obtain rfl : c' = c := rank_inj _ _ (Nat.le_antisymm
      (Nat.le_of_not_lt fun hlt => hmin c' vals' rfl c (valid_base sh hc c hcv) hlt
        ((hrep c).mpr (repOK_self null sh c vals)))
      (Nat.le_of_not_lt fun hlt => hcmin c' (valid_base sh hc c' hcv') hlt
        ((hrep c').mp (repOK_self null sh c' vals'))))
    rw [Tab.ext wf hc.hsl (⟨hcl', fun _ _ _ _ => rfl⟩ : Tab sh c' vals' _)
      ⟨hcl, fun s t v hb => (hlook s t v hb).symm⟩]

end

section roundtrip
variable {α : Type} [DecidableEq α]

theorem mergeWith_none (null : α) (step : Nat → KeyState α → KeyState α → Except Err (KeyState α))
    (shK : Nat → Shp) (hstep : ∀ k, step k none none = .ok none) (inputs : List (KeyState α))
    (hall : ∀ b, b ∈ inputs → b = none) {r : KeyState α}
    (h : mergeWith null step shK inputs = .ok r) : r = none := by
  have hfold : ∀ (rest : List (KeyState α)) k, (∀ b, b ∈ rest → b = none) →
      foldK step k none rest = .ok none := by
    intro rest
    induction rest with
    | nil => intro _ _; rfl
    | cons b rest ih =>
      intro k hall
      obtain rfl := hall b List.mem_cons_self
      simp only [foldK, hstep]
      exact ih (k + 1) fun b hb => hall b (List.mem_cons_of_mem _ hb)
  rcases inputs with _ | ⟨a, rest⟩
  · cases h
  · obtain rfl := hall a List.mem_cons_self
    simp only [mergeWith, hfold rest 1 fun b hb => hall b (List.mem_cons_of_mem _ hb)] at h
    injection h with h; exact h.symm

theorem timeSetup_subset {sh : Shp} (hc : Consistent sh) (h4 : sh.nd = 4) :
    ∀ k, 0 < k → TimeSetup { sh with T := k } (timeSubsetShp sh) := by
  rw [timeSubsetShp, if_pos h4]
  exact timeSetup_of hc.hS hc.hsl h4 (hc.h4 h4) rfl rfl rfl (hc.h4 h4) hc.hsl

theorem vecSetup_subset {sh : Shp} (hc : Consistent sh) (h5 : sh.nd = 5) :
    ∀ k, 0 < k → VecSetup { sh with V := k } (vecSubsetShp sh) := by
  unfold vecSubsetShp
  split
  · exact vecSetup_of hc.hS hc.hT hc.hsl h5 hc.hsl rfl rfl rfl (Or.inl ⟨rfl, ‹_›⟩)
  · exact vecSetup_of hc.hS hc.hT hc.hsl h5 hc.hsl rfl rfl rfl (Or.inr ⟨rfl, ‹_›⟩)

theorem split_merge_slice_run (null : α) (sh : Shp) (hc : Consistent sh) (hS2 : 2 ≤ sh.S)
    (ks : KeyState α) (hv : ValidK sh ks) (hcan : Canonical null sh ks) (pieces : Nat → KeyState α)
    (hp : ∀ i, i < sh.S → subsetSliceK null sh ks i = .ok (pieces i)) :
    mergeSliceK null sh ((List.range sh.S).map pieces) = .ok ks := by
  have hlen : ((List.range sh.S).map pieces).length = sh.S := by simp
  have hspec := fun i hi => subsetSlice_den null sh hc (Den.self hv) i hi (hp i hi)
  have hin : ∀ b, b ∈ (List.range sh.S).map pieces →
      ValidK { sh with S := 1 } b ∧ nonSliceClass b :=
    List.forall_mem_map.2 fun i hi =>
      ⟨(hspec i (List.mem_range.1 hi)).1.1, (hspec i (List.mem_range.1 hi)).2⟩
  obtain ⟨r, hm, hd⟩ := mergeSlice_run null sh hc _ (map_range_ne_nil hc.hS pieces)
    fun b hb => (hin b hb).1
  have hmin := mergeSlice_minimal null sh hc _ (by rw [hlen]; exact hS2) hin hm
  rw [hlen] at hd hmin
  rw [hm, canonical_unique null sh hc hv hcan hd.1 hmin (fun s t v hb => ?_) fun hn => ?_]
  · rw [hd.2 s t v hb]; simp only [getD_map_range hb.1]
    exact (hspec s hb.1).1.2 0 t v ⟨Nat.one_pos, hb.2⟩
  · subst hn
    exact mergeWith_none null _ _ (fun _ => rfl) _
      (List.forall_mem_map.2 fun i hi => (Except.ok.inj (hp i (List.mem_range.1 hi))).symm)
      (mergeSliceK_eq null sh _ ▸ hm)

/-- **C05 (slice axis, per key):** splitting a canonical key along the slice axis and merging the
    pieces back in order reproduces it exactly — same class, same values. -/
theorem split_merge_slice_id (null : α) (sh : Shp) (hc : Consistent sh) (hS2 : 2 ≤ sh.S)
    (ks : KeyState α) (hv : ValidK sh ks) (hcan : Canonical null sh ks)
    (pieces : Nat → KeyState α)
    (hp : ∀ i, i < sh.S → subsetSliceK null sh ks i = .ok (pieces i))
    (r : KeyState α)
    (hm : mergeSliceK null sh ((List.range sh.S).map pieces) = .ok r) : r = ks :=
  Except.ok.inj (hm.symm.trans (split_merge_slice_run null sh hc hS2 ks hv hcan pieces hp))

theorem split_merge_time_run (null : α) (sh : Shp) (hc : Consistent sh) (h4 : sh.nd = 4)
    (ks : KeyState α) (hv : ValidK sh ks) (hcan : Canonical null sh ks) (pieces : Nat → KeyState α)
    (hp : ∀ i, i < sh.T → subsetTimeK null sh ks i = .ok (pieces i)) :
    mergeTimeK null sh (timeSubsetShp sh) ((List.range sh.T).map pieces) = .ok ks := by
  have hvecf : sh.hasVector = false :=
    Bool.eq_false_iff.mpr fun hh => absurd (h4.symm.trans (hc.hvec.mp hh)) (by decide)
  have hlen : ((List.range sh.T).map pieces).length = sh.T := by simp
  have hspec := fun i hi =>
    subsetTime_den null sh hc (Or.inl h4) (fun h5 => absurd (h4.symm.trans h5) (by decide))
      (Den.self hv) i hi (hp i hi)
  have hin : ∀ b, b ∈ (List.range sh.T).map pieces → ValidK (timeSubsetShp sh) b :=
    List.forall_mem_map.2 fun i hi => (hspec i (List.mem_range.1 hi)).1
  have hs := timeSetup_subset hc h4
  obtain ⟨r, hm, hd⟩ := mergeTime_run null sh _ hs hvecf _ (map_range_ne_nil hc.hT pieces) hin
  have hmin := mergeTime_minimal null sh _ hs hvecf _ hin hm
  rw [hlen] at hd hmin
  rw [hm, canonical_unique null sh hc hv hcan hd.1 hmin (fun s t v hb => ?_) fun hn => ?_]
  · rw [hd.2 s t v hb]; simp only [getD_map_range hb.2.1]
    exact (hspec t hb.2.1).2 s 0 v (Box.timeSubset hb.1 hb.2.2)
  · subst hn
    exact mergeWith_none null _ _ (fun _ => rfl) _
      (List.forall_mem_map.2 fun i hi => (Except.ok.inj (hp i (List.mem_range.1 hi))).symm)
      (mergeTimeK_eq null sh _ _ ▸ hm)

/-- **C05 (time axis of a 4-D extension, per key):** splitting a canonical key along time and
    merging the 3-D pieces back in order reproduces it exactly. -/
theorem split_merge_time_id (null : α) (sh : Shp) (hc : Consistent sh) (h4 : sh.nd = 4)
    (ks : KeyState α) (hv : ValidK sh ks) (hcan : Canonical null sh ks)
    (pieces : Nat → KeyState α)
    (hp : ∀ i, i < sh.T → subsetTimeK null sh ks i = .ok (pieces i))
    (r : KeyState α)
    (hm : mergeTimeK null sh (timeSubsetShp sh) ((List.range sh.T).map pieces) = .ok r) :
    r = ks :=
  Except.ok.inj (hm.symm.trans (split_merge_time_run null sh hc h4 ks hv hcan pieces hp))

theorem split_merge_vec_run (null : α) (sh : Shp) (hc : Consistent sh) (h5 : sh.nd = 5)
    (hV2 : 2 ≤ sh.V)
    (ks : KeyState α) (hv : ValidK sh ks) (hcan : Canonical null sh ks) (pieces : Nat → KeyState α)
    (hp : ∀ i, i < sh.V → subsetVecK null sh ks i = .ok (pieces i)) :
    mergeVecK null sh (vecSubsetShp sh) ((List.range sh.V).map pieces) = .ok ks := by
  have htime : sh.hasTime = true → sh.T ≠ 1 := fun hh => (hc.htime.mp hh).2
  have hlen : ((List.range sh.V).map pieces).length = sh.V := by simp
  have hspec := fun i hi => subsetVec_den null sh hc h5 (Den.self hv) i hi (hp i hi)
  have hin : ∀ b, b ∈ (List.range sh.V).map pieces → ValidK (vecSubsetShp sh) b :=
    List.forall_mem_map.2 fun i hi => (hspec i (List.mem_range.1 hi)).1
  have hs := vecSetup_subset hc h5
  obtain ⟨r, hm, hd⟩ := mergeVec_run null sh _ hs htime _ (map_range_ne_nil hc.hV pieces) hin
  have hmin := mergeVec_minimal null sh _ hs htime _ (by rw [hlen]; exact hV2) hin hm
  rw [hlen] at hd hmin
  rw [hm, canonical_unique null sh hc hv hcan hd.1 hmin (fun s t v hb => ?_) fun hn => ?_]
  · rw [hd.2 s t v hb]; simp only [getD_map_range hb.2.2]
    exact (hspec v hb.2.2).2 s t 0 (Box.vecSubset hb.1 hb.2.1)
  · subst hn
    exact mergeWith_none null _ _ (fun _ => rfl) _
      (List.forall_mem_map.2 fun i hi => (Except.ok.inj (hp i (List.mem_range.1 hi))).symm)
      (mergeVecK_eq null sh _ _ ▸ hm)
end roundtrip
