import DcmVerif.Proofs.Key.Merge
/-! C06 for merges: the merged key sits in a class that no class earlier in the preference order
(with an existing dictionary) can replace. A key that ended in global slices went through the final
`_simplify`; one that ended in a class of the merge axis got there because it varies along that
axis (the invariants `SliceInv`, `TimeInv`, `VecInv` of the accumulation loop). -/
set_option autoImplicit false
open Cls

section minimal
variable {α : Type}

/-- no class earlier in the preference order, with an existing dictionary, can hold the key -/
def Minimal (null : α) (sh : Shp) (r : KeyState α) : Prop :=
  ∀ c vals, r = some (c, vals) →
    ∀ e, basePresent sh e = true → rank e < rank c →
      ¬ RepOK sh (fun s t v => lookupKS null sh r s t v) e

theorem RepOK.congr {sh : Shp} {f g : Nat → Nat → Nat → Option α} {e : Cls}
    (hfg : ∀ s t v, Box sh s t v → f s t v = g s t v) (h : RepOK sh f e) : RepOK sh g e :=
  fun s t v s' t' v' hs ht hv hs' ht' hv' hp => by
    rw [← hfg s t v ⟨hs, ht, hv⟩, ← hfg s' t' v' ⟨hs', ht', hv'⟩]
    exact h s t v s' t' v' hs ht hv hs' ht' hv' hp

theorem not_repOK_of_ne {null : α} {sh : Shp} {r : KeyState α} {e : Cls} {s t v s' t' v' : Nat}
    (hb : Box sh s t v) (hb' : Box sh s' t' v') (hp : proj sh s t v e = proj sh s' t' v' e)
    (hne : lookupKS null sh r s t v ≠ lookupKS null sh r s' t' v') :
    ¬ RepOK sh (fun s t v => lookupKS null sh r s t v) e :=
  fun h => hne (h s t v s' t' v' hb.1 hb.2.1 hb.2.2 hb'.1 hb'.2.1 hb'.2.2 hp)

/-! ### a key that varies along the merge axis sits in a minimal class -/

theorem sliceInv_minimal {null : α} {sh : Shp} {r : KeyState α} (hinv : SliceInv null sh r)
    (hng : ∀ vals, r ≠ some (gslices, vals)) : Minimal null sh r := by
  intro c vals hr e hbe hrank
  subst hr
  rcases hinv with rfl | rfl | ⟨hcls, s, s', t, v, hs, hs', ht, hv, hne⟩
  · exact absurd hrank (Nat.not_lt_zero _)
  · exact absurd rfl (hng vals)
  · -- the classes below do not look at the slice index
    refine not_repOK_of_ne ⟨hs, ht, hv⟩ ⟨hs', ht, hv⟩ ?_ hne
    rcases hcls with rfl | ⟨rfl, htm⟩
    · cases e <;> first | rfl | exact absurd hrank (by decide)
    · cases e <;> first | rfl | exact absurd hrank (by decide) | exact absurd (htm.symm.trans hbe) nofun

theorem timeInv_minimal {null : α} {sh : Shp} {r : KeyState α} (hV : 0 < sh.V)
    (hinv : TimeInv null sh r) (hng : ∀ vals, r ≠ some (gslices, vals)) : Minimal null sh r := by
  intro c vals hr e hbe hrank
  subst hr
  rcases hinv with rfl | rfl | ⟨rfl, s, t, t', hs, ht, ht', hne⟩
  · exact absurd hrank (Nat.not_lt_zero _)
  · exact absurd rfl (hng vals)
  · refine not_repOK_of_ne ⟨hs, ht, hV⟩ ⟨hs, ht', hV⟩ ?_ hne
    cases e <;> first | rfl | exact absurd hrank (by decide)

theorem vecInv_minimal {null : α} {sh : Shp} {r : KeyState α} (hinv : VecInv null sh r)
    (hng : ∀ vals, r ≠ some (gslices, vals)) : Minimal null sh r := by
  intro c vals hr e hbe hrank
  subst hr
  rcases hinv with rfl | rfl | ⟨rfl, s, t, v, v', hs, ht, hv, hv', hne⟩
  · exact absurd hrank (Nat.not_lt_zero _)
  · exact absurd rfl (hng vals)
  · refine not_repOK_of_ne ⟨hs, ht, hv⟩ ⟨hs, ht, hv'⟩ ?_ hne
    cases e <;> first | rfl | exact absurd hrank (by decide)

variable [DecidableEq α]

/-- **the final `_simplify` makes a global-slices key minimal**; any other key is left alone -/
theorem finalSimplify_minimal (null : α) (sh : Shp) (wf : WF sh) (hsl : sh.hasSlice = true)
    (hbase : ∀ d, basePresent sh d = true → d ∈ validClasses sh) {r0 r : KeyState α}
    (hv0 : ValidK sh r0) (hmin0 : (∀ vals, r0 ≠ some (gslices, vals)) → Minimal null sh r0)
    (h : finalSimplify null sh r0 = .ok r) : Minimal null sh r := by
  have hden := finalSimplify_den null sh wf hsl hbase (Den.self hv0) h
  unfold finalSimplify at h
  split at h
  · rename_i vals0
    simp only [applySimplify] at h
    cases hsm : simplifyK null sh gslices vals0 with
    | error e => simp [hsm] at h
    | ok o =>
      intro c vals hr e hbe hrank hrep
      refine simplify_gslices_minimal null sh wf hsl vals0 hv0.2 o hsm e hbe ?_
        (hrep.congr fun s t v hb => hden.2 s t v hb)
      cases o <;> simp only [hsm, Except.ok.injEq] at h <;> subst h
      · injection hr with hr; injection hr with hr _; subst hr; exact hrank
      · cases hr
      · injection hr with hr; injection hr with hr _; subst hr; exact hrank
  · rename_i hng
    injection h with h; subst h
    exact hmin0 fun vals e => hng vals e

/-! ### the invariants of the three accumulation loops -/

theorem stepSlice_inv (null : α) (sh : Shp) (hc : Consistent sh)
    (self b : KeyState α) (hself : ValidK sh self) (hb : ValidK { sh with S := 1 } b)
    (hbn : nonSliceClass b)
    (hpre : nonSliceClass self ∨ SliceInv null sh self)
    (r : KeyState α) (h : stepSliceK null sh self b = .ok r) :
    SliceInv null { sh with S := sh.S + 1 } r := by
  have wf : WF sh := hc.toWFnd.toWF
  obtain ⟨hd, hout⟩ := stepSlice_den null sh hc (Den.self hself) (Den.self hb) h
  rcases r with _ | ⟨c', vals'⟩
  · trivial
  · rcases hout hbn with e | e | ⟨hX, hv | ⟨lv, rfl⟩⟩
    · exact Or.inl e
    · exact Or.inr (Or.inl e)
    · -- a constant started to vary: slice 0 and the new slice differ
      refine Or.inr (Or.inr ⟨hX, 0, sh.S, 0, 0, Nat.succ_pos _, Nat.lt_succ_self _, wf.hT, wf.hV, ?_⟩)
      rwa [hd.2 0 0 0 ⟨Nat.succ_pos _, wf.hT, wf.hV⟩, hd.2 sh.S 0 0 ⟨Nat.lt_succ_self _, wf.hT, wf.hV⟩]
    · -- `self` was there already, and varies
      rcases hpre with hp | hp
      · rcases hX with rfl | ⟨rfl, _⟩ <;> rcases hp with e | e | e <;> cases e
      · rcases hp with e | e | ⟨_, s, s', t, v, hs, hs', ht, hv, hne⟩
        · rcases hX with rfl | ⟨rfl, _⟩ <;> cases e
        · rcases hX with rfl | ⟨rfl, _⟩ <;> cases e
        · refine Or.inr (Or.inr ⟨hX, s, s', t, v, Nat.lt_succ_of_lt hs, Nat.lt_succ_of_lt hs', ht, hv, ?_⟩)
          rw [hd.2 s t v ⟨Nat.lt_succ_of_lt hs, ht, hv⟩, hd.2 s' t v ⟨Nat.lt_succ_of_lt hs', ht, hv⟩]
          simpa only [glueS, hs, hs', if_true] using hne

theorem stepTime_inv (null : α) (sh osh : Shp) (hs : TimeSetup sh osh)
    (hvec : sh.hasVector = false)
    (self b : KeyState α) (hself : ValidK sh self) (hb : ValidK osh b)
    (hpre : TimeInv null sh self)
    (r : KeyState α) (h : stepSampleK null true sh osh self b = .ok r) :
    TimeInv null { sh with T := sh.T + 1 } r := by
  have wf := hs.wf
  obtain ⟨hd, hout⟩ := stepTime_den null sh osh hs hvec (Den.self hself) (Den.self hb) h
  rcases r with _ | ⟨c', vals'⟩
  · trivial
  · rcases hout with e | e | ⟨rfl, hv | ⟨lv, rfl⟩⟩
    · exact Or.inl e
    · exact Or.inr (Or.inl e)
    · refine Or.inr (Or.inr ⟨rfl, 0, 0, sh.T, wf.hS, Nat.succ_pos _, Nat.lt_succ_self _, ?_⟩)
      rwa [hd.2 0 0 0 ⟨wf.hS, Nat.succ_pos _, wf.hV⟩, hd.2 0 sh.T 0 ⟨wf.hS, Nat.lt_succ_self _, wf.hV⟩]
    · rcases hpre with e | e | ⟨_, s, t, t', hs', ht, ht', hne⟩
      · cases e
      · cases e
      · refine Or.inr (Or.inr ⟨rfl, s, t, t', hs', Nat.lt_succ_of_lt ht, Nat.lt_succ_of_lt ht', ?_⟩)
        rw [hd.2 s t 0 ⟨hs', Nat.lt_succ_of_lt ht, wf.hV⟩, hd.2 s t' 0 ⟨hs', Nat.lt_succ_of_lt ht', wf.hV⟩]
        simpa only [glueT, ht, ht', if_true] using hne

theorem stepVector_inv (null : α) (sh osh : Shp) (hs : VecSetup sh osh)
    (htime : sh.hasTime = true → sh.T ≠ 1)
    (self b : KeyState α) (hself : ValidK sh self) (hb : ValidK osh b)
    (hpre : nonVectorClass self ∨ VecInv null sh self)
    (r : KeyState α) (h : stepSampleK null false sh osh self b = .ok r) :
    VecInv null { sh with V := sh.V + 1 } r := by
  have wf := hs.wf
  obtain ⟨hd, hout⟩ := stepVector_den null sh osh hs htime (Den.self hself) (Den.self hb) h
  rcases r with _ | ⟨c', vals'⟩
  · trivial
  · rcases hout with e | e | ⟨rfl, hv | ⟨lv, rfl⟩⟩
    · exact Or.inl e
    · exact Or.inr (Or.inl e)
    · refine Or.inr (Or.inr ⟨rfl, 0, 0, 0, sh.V, wf.hS, wf.hT, Nat.succ_pos _, Nat.lt_succ_self _, ?_⟩)
      rwa [hd.2 0 0 0 ⟨wf.hS, wf.hT, Nat.succ_pos _⟩, hd.2 0 0 sh.V ⟨wf.hS, wf.hT, Nat.lt_succ_self _⟩]
    · rcases hpre with hp | hp
      · exact absurd rfl hp.1
      · rcases hp with e | e | ⟨_, s, t, v, v', hs', ht, hv, hv', hne⟩
        · cases e
        · cases e
        · refine Or.inr (Or.inr ⟨rfl, s, t, v, v', hs', ht, Nat.lt_succ_of_lt hv, Nat.lt_succ_of_lt hv', ?_⟩)
          rw [hd.2 s t v ⟨hs', ht, Nat.lt_succ_of_lt hv⟩, hd.2 s t v' ⟨hs', ht, Nat.lt_succ_of_lt hv'⟩]
          simpa only [glueV, hv, hv', if_true] using hne

/-! ### C06 for the three merges -/

/-- **C06 for slice merges:** with at least two inputs, none of which stores the key per slice
    (true of every canonical single-slice input), the merged key sits in a class that no class
    earlier in the preference order (with an existing dictionary) can replace. -/
theorem mergeSlice_minimal (null : α) (sh1 : Shp) (hc1 : Consistent sh1)
    (inputs : List (KeyState α)) (h2 : 2 ≤ inputs.length)
    (hin : ∀ b, b ∈ inputs → ValidK { sh1 with S := 1 } b ∧ nonSliceClass b)
    {r : KeyState α} (h : mergeSliceK null sh1 inputs = .ok r) :
    Minimal null { sh1 with S := inputs.length } r := by
  rw [mergeSliceK_eq] at h
  obtain ⟨r0, ⟨hv0, hinv⟩, heq⟩ := mergeWith_run null _ (fun k => { sh1 with S := k })
    (fun k a b => Total.stepSliceK_ok null _ a b)
    (fun k acc _ => ValidK { sh1 with S := k } acc ∧
      (k = 1 ∧ nonSliceClass acc ∨ SliceInv null { sh1 with S := k } acc))
    (fun b => ValidK { sh1 with S := 1 } b ∧ nonSliceClass b)
    (by
      intro k acc b done r hk hb ⟨hv, hpre⟩ hs
      have hck := hc1.withS hk
      exact ⟨(stepSlice_den null _ hck (Den.self hv) (Den.self hb.1) hs).1.1, Or.inr
        (stepSlice_inv null _ hck acc b hv hb.1 hb.2 (hpre.imp_left And.right) r hs)⟩)
    inputs (mergeWith_ne h) hin (fun a ha => ⟨ha.1, Or.inl ⟨rfl, ha.2⟩⟩)
  have hfin := heq ▸ h
  have hcn := hc1.withS (Nat.zero_lt_of_lt h2)
  refine finalSimplify_minimal null _ hcn.toWFnd.toWF hc1.hsl (consistent_base _ hcn) hv0
    (sliceInv_minimal (hinv.resolve_left fun h => absurd h.1 (Nat.ne_of_gt h2))) hfin

/-- **C06 for time merges (3-D inputs → 4-D)**, for any valid inputs -/
theorem mergeTime_minimal (null : α) (sh1 osh : Shp)
    (hs : ∀ k, 0 < k → TimeSetup { sh1 with T := k } osh) (hvec : sh1.hasVector = false)
    (inputs : List (KeyState α)) (hin : ∀ b, b ∈ inputs → ValidK osh b)
    {r : KeyState α} (h : mergeTimeK null sh1 osh inputs = .ok r) :
    Minimal null { sh1 with T := inputs.length } r := by
  rw [mergeTimeK_eq] at h
  obtain ⟨r0, ⟨hv0, hinv⟩, heq⟩ := mergeWith_run null _ (fun k => { sh1 with T := k })
    (fun k a b => Total.stepSampleK_ok null true _ osh a b)
    (fun k acc _ => ValidK { sh1 with T := k } acc ∧ TimeInv null { sh1 with T := k } acc)
    (ValidK osh)
    (by
      intro k acc b done r hk hb ⟨hv, hpre⟩ hst
      exact ⟨(stepTime_den null _ osh (hs k hk) hvec (Den.self hv) (Den.self hb) hst).1.1,
        stepTime_inv null _ osh (hs k hk) hvec acc b hv hb hpre r hst⟩)
    inputs (mergeWith_ne h) hin
    (by
      intro a ha
      refine ⟨(Den.liftT (null := null) (hs 1 Nat.one_pos) rfl ha).1, ?_⟩
      rcases a with _ | ⟨c, _⟩
      · trivial
      · exact ((hs 1 Nat.one_pos).other_class ha.1).2.imp_right Or.inl)
  have hfin := heq ▸ h
  have hsn := hs _ (List.length_pos_iff.mpr (mergeWith_ne h))
  exact finalSimplify_minimal null _ hsn.wf hsn.hsl (base_valid4 hsn.nd4 hvec) hv0
    (timeInv_minimal hsn.wf.hV hinv) hfin

/-- **C06 for vector merges (3-D / 4-D inputs → 5-D)**, with at least two inputs -/
theorem mergeVec_minimal (null : α) (sh1 osh : Shp)
    (hs : ∀ k, 0 < k → VecSetup { sh1 with V := k } osh) (htime : sh1.hasTime = true → sh1.T ≠ 1)
    (inputs : List (KeyState α)) (h2 : 2 ≤ inputs.length) (hin : ∀ b, b ∈ inputs → ValidK osh b)
    {r : KeyState α} (h : mergeVecK null sh1 osh inputs = .ok r) :
    Minimal null { sh1 with V := inputs.length } r := by
  rw [mergeVecK_eq] at h
  obtain ⟨r0, ⟨hv0, hinv⟩, heq⟩ := mergeWith_run null _ (fun k => { sh1 with V := k })
    (fun k a b => Total.stepSampleK_ok null false _ osh a b)
    (fun k acc _ => ValidK { sh1 with V := k } acc ∧
      (k = 1 ∧ nonVectorClass acc ∨ VecInv null { sh1 with V := k } acc))
    (ValidK osh)
    (by
      intro k acc b done r hk hb ⟨hv, hpre⟩ hst
      exact ⟨(stepVector_den null _ osh (hs k hk) htime (Den.self hv) (Den.self hb) hst).1.1, Or.inr
        (stepVector_inv null _ osh (hs k hk) htime acc b hv hb (hpre.imp_left And.right) r hst)⟩)
    inputs (mergeWith_ne h) hin
    (by
      intro a ha
      refine ⟨(Den.liftV (null := null) (hs 1 Nat.one_pos) rfl ha).1, Or.inl ⟨rfl, ?_⟩⟩
      rcases a with _ | ⟨c, _⟩
      · trivial
      · exact ((hs 1 Nat.one_pos).other_class ha.1).2)
  have hfin := heq ▸ h
  have hsn := hs _ (Nat.zero_lt_of_lt h2)
  exact finalSimplify_minimal null _ hsn.wf hsn.hsl (base_valid5 hsn.nd5 htime) hv0
    (vecInv_minimal (hinv.resolve_left fun h => absurd h.1 (Nat.ne_of_gt h2))) hfin
end minimal
