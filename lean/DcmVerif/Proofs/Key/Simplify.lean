import DcmVerif.Proofs.Key.Den
/-! `_simplify` on one key. Its two loops are first-hit searches over a list of destination classes
(`firstHit`): after a hit the moved key reads what it read before (`simplify_tab`), a class whose test
missed cannot represent the values (minimality, C06), and no test raises on a list of the right
length. -/
set_option autoImplicit false
open Cls

/-! ### the search loop -/

/-- `for d in dests: … break` / `else`: the first destination on which `test` hits; an exception
    leaves the loop -/
def firstHit {β : Type} (test : Cls → Except Err (Option β)) :
    List Cls → Except Err (Option (Cls × β))
  | [] => .ok none
  | d :: rest =>
    match test d with
    | .error e => .error e
    | .ok (some b) => .ok (some (d, b))
    | .ok none => firstHit test rest

section firstHit
variable {β : Type} (test : Cls → Except Err (Option β))

theorem firstHit_none {l : List Cls} :
    firstHit test l = .ok none ↔ ∀ e ∈ l, test e = .ok none := by
  induction l with
  | nil => simp [firstHit]
  | cons x xs ih =>
    simp only [firstHit, List.mem_cons, forall_eq_or_imp]
    cases hx : test x with
    | error e => simp
    | ok r => cases r <;> simp [ih]

theorem firstHit_some {l : List Cls} {d : Cls} {b : β} (h : firstHit test l = .ok (some (d, b))) :
    ∃ l₁ l₂, l = l₁ ++ d :: l₂ ∧ (∀ e ∈ l₁, test e = .ok none) ∧ test d = .ok (some b) := by
  induction l with
  | nil => cases h
  | cons x xs ih =>
    simp only [firstHit] at h
    rcases hx : test x with e | _ | b' <;> simp only [hx] at h
    · cases h
    · obtain ⟨l₁, l₂, rfl, hm, hd⟩ := ih h
      exact ⟨x :: l₁, l₂, rfl, by simpa [hx] using hm, hd⟩
    · injection h with h; injection h with h; injection h with h1 h2
      subst h1 h2
      exact ⟨[], xs, rfl, by simp, hx⟩

theorem firstHit_ok {l : List Cls} (h : ∀ e ∈ l, ∃ r, test e = .ok r) :
    ∃ r, firstHit test l = .ok r := by
  induction l with
  | nil => exact ⟨none, rfl⟩
  | cons x xs ih =>
    obtain ⟨r, hr⟩ := h x (by simp)
    simp only [firstHit, hr]
    cases r with
    | some b => exact ⟨_, rfl⟩
    | none => exact ih fun e he => h e (by simp [he])

end firstHit

section tests
variable {α : Type} [DecidableEq α]

/-- one round of the constant loop: the values stored under `d` when the test hits -/
def constTest (sh : Shp) (src : Cls) (vals : List α) (d : Cls) : Except Err (Option (List α)) :=
  if basePresent sh d then
    match (if constPeriod sh src d = some 1 then .ok true
      else pyIsConstant vals (constPeriod sh src d) : Except Err Bool) with
    | .error e => .error e
    | .ok true =>
      .ok (some (match constPeriod sh src d with
        | none => (vals.head?).toList
        | some p => stride p vals))
    | .ok false => .ok none
  else .ok none

def repeatTest (sh : Shp) (vals : List α) (d : Cls) : Except Err (Option (List α)) :=
  if basePresent sh d then
    match repeatHit vals (mult sh d) with
    | .error e => .error e
    | .ok true => .ok (some (vals.take (mult sh d)))
    | .ok false => .ok none
  else .ok none

theorem constLoop_eq (sh : Shp) (src : Cls) (vals : List α) (l : List Cls) :
    constLoop sh src vals l = firstHit (constTest sh src vals) l := by
  induction l with
  | nil => rfl
  | cons x xs ih =>
    simp only [constLoop, firstHit, constTest]
    by_cases hb : basePresent sh x = true
    · simp only [hb, if_true]
      generalize (if constPeriod sh src x = some 1 then Except.ok true
        else pyIsConstant vals (constPeriod sh src x) : Except Err Bool) = hit
      rcases hit with e | _ | _
      · rfl
      · exact ih
      · cases constPeriod sh src x <;> rfl
    · simp only [hb]; exact ih

theorem repeatLoop_eq (sh : Shp) (vals : List α) (l : List Cls) :
    repeatLoop sh vals l = firstHit (repeatTest sh vals) l := by
  induction l with
  | nil => rfl
  | cons x xs ih =>
    simp only [repeatLoop, firstHit, repeatTest]
    by_cases hb : basePresent sh x = true
    · simp only [hb, if_true]
      rcases repeatHit vals (mult sh x) with e | _ | _
      · rfl
      · exact ih
      · rfl
    · simp only [hb]; exact ih

theorem pyIsConstant_ok_iff {l : List α} {p : Nat} {b : Bool} :
    pyIsConstant l (some p) = .ok b ↔ 1 < p ∧ l.length % p = 0 ∧ isConstantP p l = b := by
  unfold pyIsConstant
  by_cases h1 : p ≤ 1
  · simp [h1]; omega
  · by_cases hd : l.length % p = 0
    · simp [h1, hd]; omega
    · simp [h1, hd]

theorem pyIsRepeating_ok_iff {l : List α} {p : Nat} {b : Bool} :
    pyIsRepeating l p = .ok b ↔ (1 < p ∧ p < l.length) ∧ l.length % p = 0 ∧ isRepeatingP p l = b := by
  unfold pyIsRepeating
  by_cases h1 : p ≤ 1 ∨ p ≥ l.length
  · simp [h1]; omega
  · by_cases hd : l.length % p = 0
    · simp [h1, hd]; omega
    · simp [h1, hd]

theorem constTest_some {sh : Shp} {src d : Cls} {vals out : List α}
    (h : constTest sh src vals d = .ok (some out)) :
    basePresent sh d = true ∧ ConstHit sh src vals d out := by
  unfold constTest at h
  by_cases hb : basePresent sh d = true
  · refine ⟨hb, ?_⟩
    simp only [hb, if_true] at h
    by_cases h1 : constPeriod sh src d = some 1
    · simp only [h1, if_true, Except.ok.injEq, Option.some.injEq] at h
      exact .one h1 h.symm
    · simp only [h1, if_false] at h
      cases hper : constPeriod sh src d with
      | none =>
        simp only [hper, pyIsConstant] at h
        cases hc : isConstantAll vals <;> simp [hc] at h
        exact .all hper hc h.symm
      | some p =>
        rw [hper] at h
        rcases hpc : pyIsConstant vals (some p) with e | _ | _ <;> simp [hpc] at h
        obtain ⟨hp1, hdiv, hc⟩ := pyIsConstant_ok_iff.mp hpc
        exact .per p hper hp1 hdiv hc h.symm
  · simp [hb] at h

theorem constTest_none {sh : Shp} {src d : Cls} {vals : List α}
    (h : constTest sh src vals d = .ok none) : ConstMiss sh src vals d := by
  intro hb
  simp only [constTest, hb, if_true] at h
  by_cases h1 : constPeriod sh src d = some 1
  · simp [h1] at h
  · refine ⟨h1, ?_⟩
    simp only [h1, if_false] at h
    rcases hpc : pyIsConstant vals (constPeriod sh src d) with e | _ | _ <;> simp [hpc] at h
    rfl

def RepeatHit (sh : Shp) (vals : List α) (d : Cls) (out : List α) : Prop :=
  (mult sh d = vals.length ∨ (1 < mult sh d ∧ mult sh d < vals.length)) ∧
    vals.length % mult sh d = 0 ∧ isRepeatingP (mult sh d) vals = true ∧
    out = vals.take (mult sh d)

theorem repeatTest_some {sh : Shp} {d : Cls} {vals out : List α}
    (h : repeatTest sh vals d = .ok (some out)) : basePresent sh d = true ∧ RepeatHit sh vals d out := by
  unfold repeatTest at h
  by_cases hb : basePresent sh d = true
  · refine ⟨hb, ?_⟩
    simp only [hb, if_true, repeatHit] at h
    by_cases hdeg : mult sh d = vals.length
    · simp only [hdeg, if_true, Except.ok.injEq, Option.some.injEq] at h
      rw [RepeatHit, hdeg]
      exact ⟨Or.inl rfl, Nat.mod_self _, isRepeatingP_self vals, h.symm⟩
    · simp only [hdeg, if_false] at h
      rcases hpr : pyIsRepeating vals (mult sh d) with e | _ | _ <;> simp [hpr] at h
      obtain ⟨hg, hdiv, hc⟩ := pyIsRepeating_ok_iff.mp hpr
      exact ⟨Or.inr hg, hdiv, hc, h.symm⟩
  · simp [hb] at h

theorem repeatTest_none {sh : Shp} {d : Cls} {vals : List α}
    (h : repeatTest sh vals d = .ok none) : RepeatMiss sh vals d := by
  intro hb
  simp only [repeatTest, hb, if_true] at h
  rcases hpc : repeatHit vals (mult sh d) with e | _ | _ <;> simp [hpc] at h
  rfl

/-! ### what the two loops return -/

theorem constLoop_spec (sh : Shp) (src : Cls) (vals : List α) (l : List Cls) (d : Cls)
    (out : List α) (h : constLoop sh src vals l = .ok (some (d, out))) :
    d ∈ l ∧ basePresent sh d = true ∧ ConstHit sh src vals d out := by
  rw [constLoop_eq] at h
  obtain ⟨l₁, l₂, rfl, _, hd⟩ := firstHit_some _ h
  exact ⟨by simp, constTest_some hd⟩

theorem repeatLoop_spec (sh : Shp) (vals : List α) (l : List Cls) (d : Cls)
    (out : List α) (h : repeatLoop sh vals l = .ok (some (d, out))) :
    d ∈ l ∧ basePresent sh d = true ∧
      (mult sh d = vals.length ∨ (1 < mult sh d ∧ mult sh d < vals.length)) ∧
      vals.length % mult sh d = 0 ∧ isRepeatingP (mult sh d) vals = true ∧
      out = vals.take (mult sh d) := by
  rw [repeatLoop_eq] at h
  obtain ⟨l₁, l₂, rfl, _, hd⟩ := firstHit_some _ h
  exact ⟨by simp, repeatTest_some hd⟩

theorem constLoop_prefix (sh : Shp) (src : Cls) (vals : List α) (l : List Cls)
    (res : Option (Cls × List α)) (h : constLoop sh src vals l = .ok res) :
    match res with
    | none => ∀ e, e ∈ l → ConstMiss sh src vals e
    | some (d, _) => ∃ l1 l2, l = l1 ++ d :: l2 ∧ ∀ e, e ∈ l1 → ConstMiss sh src vals e := by
  rw [constLoop_eq] at h
  match res with
  | none => exact fun e he => constTest_none ((firstHit_none _).mp h e he)
  | some (d, o) =>
    obtain ⟨l₁, l₂, hl, hm, _⟩ := firstHit_some _ h
    exact ⟨l₁, l₂, hl, fun e he => constTest_none (hm e he)⟩

theorem repeatLoop_prefix (sh : Shp) (vals : List α) (l : List Cls)
    (res : Option (Cls × List α)) (h : repeatLoop sh vals l = .ok res) :
    match res with
    | none => ∀ e, e ∈ l → RepeatMiss sh vals e
    | some (d, _) => ∃ l1 l2, l = l1 ++ d :: l2 ∧ ∀ e, e ∈ l1 → RepeatMiss sh vals e := by
  rw [repeatLoop_eq] at h
  match res with
  | none => exact fun e he => repeatTest_none ((firstHit_none _).mp h e he)
  | some (d, o) =>
    obtain ⟨l₁, l₂, hl, hm, _⟩ := firstHit_some _ h
    exact ⟨l₁, l₂, hl, fun e he => repeatTest_none (hm e he)⟩

/-! ### what `_simplify` returns -/

theorem simplifyK_gconst (null : α) (sh : Shp) (vals : List α) :
    simplifyK null sh gconst vals = .ok (if vals = [null] then .deleted else .unchanged) := by
  simp [simplifyK]

/-- only a global constant that is `null` is deleted; a key stays where it is when every test
    misses, and moves to the first destination whose test hits — the constant tests first -/
theorem simplifyK_spec (null : α) (sh : Shp) {c : Cls} (vals : List α)
    {o : SimpOut α} (h : simplifyK null sh c vals = .ok o) :
    match (generalizing := false) o with
    | .deleted => c = gconst ∧ vals = [null]
    | .unchanged =>
      (∀ e ∈ constTests c, ConstMiss sh c vals e) ∧ ∀ e ∈ repeatTests c, RepeatMiss sh vals e
    | .moved d out =>
      (∃ l₁ l₂, constTests c = l₁ ++ d :: l₂ ∧ (∀ e ∈ l₁, ConstMiss sh c vals e) ∧
        basePresent sh d = true ∧ ConstHit sh c vals d out) ∨
      ((∀ e ∈ constTests c, ConstMiss sh c vals e) ∧
        ∃ l₁ l₂, repeatTests c = l₁ ++ d :: l₂ ∧ (∀ e ∈ l₁, RepeatMiss sh vals e) ∧
          basePresent sh d = true ∧ RepeatHit sh vals d out) := by
  by_cases hc : c = gconst
  · subst hc
    rw [simplifyK_gconst] at h
    by_cases hv : vals = [null]
    · rw [if_pos hv] at h; cases h; exact ⟨rfl, hv⟩
    · rw [if_neg hv] at h; cases h; exact ⟨List.forall_mem_nil _, List.forall_mem_nil _⟩
  simp only [simplifyK, hc, if_false] at h
  rcases hcl : constLoop sh c vals (constTests c) with e | _ | ⟨d, out⟩
  · simp [hcl] at h
  · have hmc := constLoop_prefix sh c vals _ none hcl
    rcases hrl : repeatLoop sh vals (repeatTests c) with e | _ | ⟨d, out⟩
    · simp [hcl, hrl] at h
    · simp only [hcl, hrl, Except.ok.injEq] at h; subst h
      exact ⟨hmc, repeatLoop_prefix sh vals _ none hrl⟩
    · simp only [hcl, hrl, Except.ok.injEq] at h; subst h
      obtain ⟨l₁, l₂, hl, hm⟩ := repeatLoop_prefix sh vals _ _ hrl
      exact Or.inr ⟨hmc, l₁, l₂, hl, hm, (repeatLoop_spec sh vals _ d out hrl).2⟩
  · simp only [hcl, Except.ok.injEq] at h; subst h
    obtain ⟨l₁, l₂, hl, hm⟩ := constLoop_prefix sh c vals _ _ hcl
    exact Or.inl ⟨l₁, l₂, hl, hm, (constLoop_spec sh c vals _ d out hcl).2⟩

theorem constHit_index {sh : Shp} {src d : Cls} {vals out : List α}
    (hh : ConstHit sh src vals d out) :
    (constPeriod sh src d = none ∧ (∀ i, i < vals.length → vals[i]? = vals[0]?) ∧
        out = (vals.head?).toList) ∨
    (∃ q, constPeriod sh src d = some q ∧ 0 < q ∧ out = stride q vals ∧
        (∀ i, i < vals.length → vals[i]? = vals[i / q * q]?)) := by
  cases hh with
  | all hp hc ho => exact Or.inl ⟨hp, (isConstantAll_iff vals).mp hc, ho⟩
  | one hp ho => exact Or.inr ⟨1, hp, by omega, ho, fun i _ => by simp⟩
  | per p hp h1 hdiv hc ho =>
    exact Or.inr ⟨p, hp, by omega, ho, (isConstantP_iff p (by omega) vals hdiv).mp hc⟩

/-- **`_simplify` keeps every lookup** and stores the right number of values (`hbug`: see
    `proj_narrow_const`) -/
theorem simplify_tab (null : α) (sh : Shp) (wf : WF sh) (hsl : sh.hasSlice = true) {c d : Cls}
    {vals out : List α} {f : Nat → Nat → Nat → Option α} (ht : Tab sh c vals f)
    (h : simplifyK null sh c vals = .ok (.moved d out))
    (hbug : ¬ (c = vslices ∧ d = tsamples ∧ 1 < sh.V)) : basePresent sh d = true ∧ Tab sh d out f := by
  obtain ⟨hlen, hlk⟩ := ht
  have hin := fun s t v hb => hlen ▸ proj_lt_mult sh hsl c (s := s) (t := t) (v := v) hb
  rcases simplifyK_spec null sh vals h with ⟨l₁, l₂, hl, _, hb, hh⟩ | ⟨_, l₁, l₂, hl, _, hb, hh⟩
  · have hmem : d ∈ constTests c := by rw [hl]; simp
    refine ⟨hb, ?_⟩
    rcases constHit_index hh with ⟨hp, hall, rfl⟩ | ⟨q, hp, hq, rfl, hvals⟩
    · -- everything was compared: the destination is global const
      obtain rfl := constPeriod_none hp
      have hpos := mult_pos sh wf hsl c
      refine ⟨?_, fun s t v hb => ?_⟩
      · cases vals with
        | nil => simp at hlen; omega
        | cons x xs => rfl
      · rw [← hlk s t v hb, hall _ (hin s t v hb)]
        cases vals <;> rfl
    · have hn := fun s t v hb => proj_narrow_const sh wf hsl hmem hp hbug (s := s) (t := t) (v := v) hb
      refine ⟨length_stride_exact q _ hq vals (by rw [hlen]; exact (hn 0 0 0 ⟨wf.hS, wf.hT, wf.hV⟩).1),
        fun s t v hb => ?_⟩
      rw [getElem?_stride q hq, ← (hn s t v hb).2, ← hvals _ (hin s t v hb)]
      exact hlk s t v hb
  · have hmem : d ∈ repeatTests c := by rw [hl]; simp
    obtain ⟨hcase, hdiv, hrep, rfl⟩ := hh
    have hm : 0 < mult sh d := mult_pos sh wf hsl d
    refine ⟨hb, ?_, fun s t v hb => ?_⟩
    · rw [List.length_take]; omega
    · rw [List.getElem?_take_of_lt (proj_lt_mult sh hsl d hb), ← proj_narrow_repeat sh hsl hmem hb,
        ← (isRepeatingP_iff _ hm vals hdiv).mp hrep _ (hin s t v hb)]
      exact hlk s t v hb

/-! ### a test that missed: the class cannot represent the values (C06) -/

omit [DecidableEq α] in
/-- two positions with the same index in class `e` whose values differ: `e` cannot hold the key.
    The positions are given by their indices `i`, `g i` in the layout of the current class. -/
theorem not_repOK_of_index {sh : Shp} (wf : WF sh) (hsl : sh.hasSlice = true) {c e : Cls}
    {vals : List α} {f : Nat → Nat → Nat → Option α} (ht : Tab sh c vals f) (g : Nat → Nat)
    (hg : ∀ i, g i ≤ i)
    (hproj : ∀ s t v s' t' v', Box sh s t v → Box sh s' t' v' →
      g (proj sh s t v c) = proj sh s' t' v' c → proj sh s t v e = proj sh s' t' v' e)
    (hne : ∃ i, i < vals.length ∧ vals[i]? ≠ vals[g i]?) : ¬ RepOK sh f e := by
  obtain ⟨i, hi, hne⟩ := hne
  rw [ht.1] at hi
  obtain ⟨s, t, v, hb, rfl⟩ := proj_surj sh wf hsl c i hi
  obtain ⟨s', t', v', hb', hgi⟩ := proj_surj sh wf hsl c _ (Nat.lt_of_le_of_lt (hg _) hi)
  intro hrep
  apply hne
  rw [← hgi, ht.2 s t v hb, ht.2 s' t' v' hb']
  exact hrep s t v s' t' v' hb.1 hb.2.1 hb.2.2 hb'.1 hb'.2.1 hb'.2.2 (hproj s t v s' t' v' hb hb' hgi.symm)

theorem constMiss_not_repOK {sh : Shp} (wf : WF sh) (hsl : sh.hasSlice = true) {c e : Cls}
    {vals : List α} {f : Nat → Nat → Nat → Option α} (ht : Tab sh c vals f)
    (hmem : e ∈ constTests c) (hbug : ¬ (c = vslices ∧ e = tsamples ∧ 1 < sh.V))
    (hm : ConstMiss sh c vals e) (hb : basePresent sh e = true) : ¬ RepOK sh f e := by
  obtain ⟨_, hpc⟩ := hm hb
  cases hper : constPeriod sh c e with
  | none =>
    obtain rfl := constPeriod_none hper
    rw [hper] at hpc
    injection hpc with hpc
    exact not_repOK_of_index wf hsl ht (fun _ => 0) (fun _ => Nat.zero_le _) (fun _ _ _ _ _ _ _ _ _ => rfl)
      (exists_lt_of_not_forall fun h => by simp [(isConstantAll_iff vals).mpr h] at hpc)
  | some q =>
    rw [hper] at hpc
    obtain ⟨hq, hdiv, hc⟩ := pyIsConstant_ok_iff.mp hpc
    refine not_repOK_of_index wf hsl ht (fun i => i / q * q) (fun i => Nat.div_mul_le_self i q) ?_
      (exists_lt_of_not_forall fun h => by
        rw [(isConstantP_iff q (by omega) vals hdiv).mpr h] at hc; cases hc)
    intro s t v s' t' v' hb hb' hg
    rw [← (proj_narrow_const sh wf hsl hmem hper hbug hb).2,
      ← (proj_narrow_const sh wf hsl hmem hper hbug hb').2, ← hg, Nat.mul_div_cancel _ (by omega)]

theorem repeatMiss_not_repOK {sh : Shp} (wf : WF sh) (hsl : sh.hasSlice = true) {c e : Cls}
    {vals : List α} {f : Nat → Nat → Nat → Option α} (ht : Tab sh c vals f)
    (hmem : e ∈ repeatTests c) (hm : RepeatMiss sh vals e) (hb : basePresent sh e = true) :
    ¬ RepOK sh f e := by
  have hpc := hm hb
  unfold repeatHit at hpc
  split at hpc
  · cases hpc
  obtain ⟨hg, hdiv, hc⟩ := pyIsRepeating_ok_iff.mp hpc
  refine not_repOK_of_index wf hsl ht (fun i => i % mult sh e) (fun i => Nat.mod_le i _) ?_
    (exists_lt_of_not_forall fun h => by
      rw [(isRepeatingP_iff _ (by omega) vals hdiv).mpr h] at hc; cases hc)
  intro s t v s' t' v' hb hb' hg
  rw [← proj_narrow_repeat sh hsl hmem hb, ← proj_narrow_repeat sh hsl hmem hb', ← hg, Nat.mod_mod]

theorem mem_prefix_of_rank {l₁ l₂ : List Cls} {d e : Cls}
    (hs : (l₁ ++ d :: l₂).Pairwise (fun a b => rank a < rank b)) (he : e ∈ l₁ ++ d :: l₂)
    (hr : rank e < rank d) : e ∈ l₁ := by
  rcases List.mem_append.mp he with h | h
  · exact h
  · obtain ⟨_, hd, _⟩ := List.pairwise_append.mp hs
    rcases List.mem_cons.mp h with rfl | h
    · omega
    · have := (List.pairwise_cons.mp hd).1 e h; omega

/-- **Minimality of `_simplify` from global slices (C06):** whatever class the key ends in, no
    class that comes earlier in the preference order (and whose dictionary exists) can represent
    the key's values. -/
theorem simplify_gslices_minimal (null : α) (sh : Shp) (wf : WF sh) (hsl : sh.hasSlice = true)
    (vals : List α) (hlen : vals.length = mult sh gslices) (o : SimpOut α)
    (h : simplifyK null sh gslices vals = .ok o) :
    ∀ e, basePresent sh e = true → rank e < rank (resultClass o) →
      ¬ RepOK sh (fun s t v => vals[proj sh s t v gslices]?) e := by
  intro e hbe hrank
  have ht := Tab.self sh gslices vals hlen
  -- the two loops try the classes in the order of `rank`; every class but global slices is tried
  have hsorted : (constTests gslices ++ repeatTests gslices).Pairwise (fun a b => rank a < rank b) := by
    simp [constTests, repeatTests, rank]
  have hall : ∀ e, rank e < rank gslices → e ∈ constTests gslices ++ repeatTests gslices := by
    intro e; cases e <;> simp [rank, constTests, repeatTests]
  have hlt : ∀ {d}, rank e < rank d → rank e < rank gslices := fun {d} h =>
    Nat.lt_of_lt_of_le h (by cases d <;> decide)
  have cmiss := fun he hm => constMiss_not_repOK wf hsl ht (e := e) he (by simp) hm hbe
  have rmiss := fun he hm => repeatMiss_not_repOK wf hsl ht (e := e) he hm hbe
  have hspec := simplifyK_spec null sh vals h
  match o, hspec, hrank with
  | .unchanged, ⟨hc, hr⟩, hrank =>
    rcases List.mem_append.mp (hall e hrank) with he | he
    · exact cmiss he (hc e he)
    · exact rmiss he (hr e he)
  | .moved d out, .inl ⟨l₁, l₂, hl, hm, _⟩, hrank =>
    rw [hl, List.append_assoc, List.cons_append] at hsorted hall
    have he := mem_prefix_of_rank hsorted (hall e (hlt hrank)) hrank
    exact cmiss (by rw [hl]; simp [he]) (hm e he)
  | .moved d out, .inr ⟨hc, l₁, l₂, hl, hm, _⟩, hrank =>
    rw [hl, ← List.append_assoc] at hsorted hall
    have he := mem_prefix_of_rank hsorted (hall e (hlt hrank)) hrank
    rcases List.mem_append.mp he with he | he
    · exact cmiss he (hc e he)
    · exact rmiss (by rw [hl]; simp [he]) (hm e he)

/-! ### `_simplify` raises on no list of the right length -/

theorem constPeriod_dvd (sh : Shp) (wf : WF sh) (hsl : sh.hasSlice = true) {c d : Cls} {q : Nat}
    (hmem : d ∈ constTests c) (hq : constPeriod sh c d = some q) : 0 < q ∧ mult sh c % q = 0 := by
  obtain ⟨hS, hT, hV⟩ := wf
  have hTV := Nat.mul_pos hT hV
  cases c <;> cases d <;> simp [constTests] at hmem <;>
    simp [constPeriod, mult, hsl] at hq <;> subst hq <;> simp only [mult, hsl, if_true]
  · rw [Nat.mul_assoc, Nat.mul_div_cancel _ hTV]; exact ⟨hS, Nat.mul_mod_right _ _⟩
  · rw [Nat.mul_div_cancel _ hV]; exact ⟨Nat.mul_pos hS hT, Nat.mul_mod_right _ _⟩
  · exact ⟨hT, Nat.mul_mod_right _ _⟩
  · exact ⟨hS, Nat.mul_mod_right _ _⟩

theorem constTest_ok (sh : Shp) (wf : WF sh) (hsl : sh.hasSlice = true) {c d : Cls} {vals : List α}
    (hlen : vals.length = mult sh c) (hmem : d ∈ constTests c) :
    ∃ r, constTest sh c vals d = .ok r := by
  unfold constTest
  by_cases hb : basePresent sh d = true
  · have hit : ∃ b, (if constPeriod sh c d = some 1 then Except.ok true
        else pyIsConstant vals (constPeriod sh c d) : Except Err Bool) = .ok b := by
      by_cases h1 : constPeriod sh c d = some 1
      · exact ⟨true, by rw [if_pos h1]⟩
      · rw [if_neg h1]
        cases hper : constPeriod sh c d with
        | none => exact ⟨_, rfl⟩
        | some q =>
          obtain ⟨hq, hdiv⟩ := constPeriod_dvd sh wf hsl hmem hper
          have : q ≠ 1 := fun e => h1 (by rw [hper, e])
          exact ⟨_, pyIsConstant_ok_iff.mpr ⟨by omega, hlen ▸ hdiv, rfl⟩⟩
    obtain ⟨b, hb'⟩ := hit
    simp only [hb, if_true, hb']
    cases b <;> exact ⟨_, rfl⟩
  · exact ⟨none, by simp [hb]⟩

/-- the repeat tests are only reached after the constant tests of the sibling sample classes have
    missed, so their period is not 1; it divides the length because the class layouts nest -/
theorem repeatTest_ok (sh : Shp) (wf : WF sh) (hsl : sh.hasSlice = true) {c d : Cls} {vals : List α}
    (hlen : vals.length = mult sh c) (hmiss : ∀ e ∈ constTests c, ConstMiss sh c vals e)
    (hmem : d ∈ repeatTests c) : ∃ r, repeatTest sh vals d = .ok r := by
  unfold repeatTest
  by_cases hb : basePresent sh d = true
  · -- the sample class with the same base has the period `mult sh d`
    have key : ∃ e, e ∈ constTests c ∧ basePresent sh e = basePresent sh d ∧
        constPeriod sh c e = some (mult sh d) := by
      obtain ⟨hS, hT, hV⟩ := wf
      cases c <;> cases d <;> simp [repeatTests] at hmem
      · exact ⟨tsamples, by simp [constTests], rfl, by
          simp only [constPeriod, mult, hsl, if_true]
          rw [Nat.mul_assoc, Nat.mul_div_cancel _ (Nat.mul_pos hT hV)]⟩
      · exact ⟨vsamples, by simp [constTests], rfl, by
          simp only [constPeriod, mult, hsl, if_true]; rw [Nat.mul_div_cancel _ hV]⟩
      · exact ⟨tsamples, by simp [constTests], rfl, by simp [constPeriod, mult, hsl]⟩
    obtain ⟨e, he, hbe, hper⟩ := key
    have hdiv := (constPeriod_dvd sh wf hsl he hper).2
    have h1 : mult sh d ≠ 1 := fun h => (hmiss e he (hbe ▸ hb)).1 (by rw [hper, h])
    have hpos := mult_pos sh wf hsl d
    have hle : mult sh d ≤ mult sh c :=
      Nat.le_of_dvd (mult_pos sh wf hsl c) (Nat.dvd_of_mod_eq_zero hdiv)
    have hit : ∃ b, repeatHit vals (mult sh d) = .ok b := by
      by_cases hdeg : mult sh d = vals.length
      · exact ⟨true, by rw [repeatHit, if_pos hdeg]⟩
      · exact ⟨_, by
          rw [repeatHit, if_neg hdeg]
          exact pyIsRepeating_ok_iff.mpr ⟨⟨by omega, by omega⟩, hlen ▸ hdiv, rfl⟩⟩
    obtain ⟨b, hb'⟩ := hit
    simp only [hb, if_true, hb']
    cases b <;> exact ⟨_, rfl⟩
  · exact ⟨none, by simp [hb]⟩

/-- **`_simplify` never fails on a valid key**, whatever its class -/
theorem simplifyK_ok (null : α) (sh : Shp) (wf : WF sh) (hsl : sh.hasSlice = true)
    (c : Cls) (vals : List α) (hl : vals.length = mult sh c) :
    ∃ o, simplifyK null sh c vals = .ok o := by
  by_cases hc : c = gconst
  · subst hc; exact ⟨_, simplifyK_gconst null sh vals⟩
  · simp only [simplifyK, hc, if_false, constLoop_eq, repeatLoop_eq]
    obtain ⟨r, hr⟩ := firstHit_ok (constTest sh c vals) fun d hd => constTest_ok sh wf hsl hl hd
    rw [hr]
    cases r with
    | some p => exact ⟨_, rfl⟩
    | none =>
      have hmiss := fun e he => constTest_none ((firstHit_none _).mp hr e he)
      obtain ⟨r', hr'⟩ := firstHit_ok (repeatTest sh vals) fun d hd =>
        repeatTest_ok sh wf hsl hl hmiss hd
      rw [hr']
      cases r' <;> exact ⟨_, rfl⟩

/-! ### consequences for key states -/

theorem simplify_moved_mem (null : α) (sh : Shp) {c d : Cls} {vals out : List α}
    (h : simplifyK null sh c vals = .ok (.moved d out)) :
    basePresent sh d = true ∧ (d ∈ constTests c ∨ d ∈ repeatTests c) := by
  rcases simplifyK_spec null sh vals h with ⟨l₁, l₂, hl, _, hb, _⟩ | ⟨_, l₁, l₂, hl, _, hb, _⟩
  · exact ⟨hb, Or.inl (by rw [hl]; simp)⟩
  · exact ⟨hb, Or.inr (by rw [hl]; simp)⟩

theorem simplify_lookup (null : α) (sh : Shp) (wf : WF sh) (c : Cls) (vals : List α)
    (hsl : sh.hasSlice = true) (hlen : vals.length = mult sh c) (d : Cls) (out : List α)
    (h : simplifyK null sh c vals = .ok (.moved d out))
    (hbug : ¬ (c = vslices ∧ d = tsamples ∧ 1 < sh.V))
    (s t v : Nat) (hs : s < sh.S) (ht : t < sh.T) (hv : v < sh.V) :
    lookupK sh d out s t v = lookupK sh c vals s t v :=
  (simplify_tab null sh wf hsl (Tab.self sh c vals hlen) h hbug).2.2 s t v ⟨hs, ht, hv⟩

/-- `_simplify` stores the right number of values under a class that is valid for the shape -/
theorem simplify_valid (null : α) (sh : Shp) (wf : WF sh) (hsl : sh.hasSlice = true)
    (hbase : ∀ d, basePresent sh d = true → d ∈ validClasses sh)
    (c : Cls) (vals : List α) (hlen : vals.length = mult sh c) (d : Cls) (out : List α)
    (h : simplifyK null sh c vals = .ok (.moved d out))
    (hbug : ¬ (c = vslices ∧ d = tsamples ∧ 1 < sh.V)) :
    d ∈ validClasses sh ∧ out.length = mult sh d :=
  have := simplify_tab null sh wf hsl (Tab.self sh c vals hlen) h hbug
  ⟨hbase d this.1, this.2.1⟩

/-- **a `_simplify` call leaves the key valid and reading what it read**: unchanged, moved to a
    simpler class, or — a constant `null` — deleted, which reads `null` as well. `hbug` puts the move
    that `proj_narrow_const` excludes out of reach. -/
theorem applySimplify_den (null : α) (sh : Shp) (wf : WF sh) (hsl : sh.hasSlice = true)
    (hbase : ∀ d, basePresent sh d = true → d ∈ validClasses sh)
    {ks r : KeyState α} {f : Nat → Nat → Nat → Option α} (hd : Den null sh ks f)
    (hbug : ∀ vals, ks = some (vslices, vals) → sh.hasTime = true → sh.V = 1)
    (h : applySimplify null sh ks = .ok r) : Den null sh r f := by
  match ks with
  | none => injection h with h; subst h; exact hd
  | some (c, vals) =>
    simp only [applySimplify] at h
    rcases hs : simplifyK null sh c vals with e | _ | _ | ⟨d, out⟩ <;> simp only [hs] at h
    · cases h
    · injection h with h; subst h; exact hd
    · injection h with h; subst h
      obtain ⟨rfl, rfl⟩ := simplifyK_spec null sh vals hs
      exact den_absent.mpr hd
    · injection h with h; subst h
      have hb := (simplify_moved_mem null sh hs).1
      have := simplify_tab null sh wf hsl (den_some.mp hd).2 hs (by
        rintro ⟨rfl, rfl, hV⟩
        have := hbug vals rfl hb; omega)
      exact den_some.mpr ⟨hbase d hb, this.2⟩

theorem applySimplify_total (null : α) (sh : Shp) (wf : WF sh) (hsl : sh.hasSlice = true)
    (ks : KeyState α) (hval : ValidK sh ks) : ∃ r, applySimplify null sh ks = .ok r := by
  match ks with
  | none => exact ⟨none, rfl⟩
  | some (c, vals) =>
    obtain ⟨o, ho⟩ := simplifyK_ok null sh wf hsl c vals hval.2
    simp only [applySimplify, ho]
    cases o <;> exact ⟨_, rfl⟩

theorem applySimplify_cls (null : α) (sh : Shp) {c d : Cls} {vals out : List α}
    (h : applySimplify null sh (some (c, vals)) = .ok (some (d, out))) :
    d = c ∨ d ∈ constTests c ∨ d ∈ repeatTests c := by
  simp only [applySimplify] at h
  rcases hs : simplifyK null sh c vals with e | _ | _ | ⟨d', out'⟩ <;> simp only [hs] at h
  · cases h
  · injection h with h; injection h with h; injection h with h _; exact Or.inl h.symm
  · cases h
  · injection h with h; injection h with h; injection h with h _; subst h
    exact Or.inr (simplify_moved_mem null sh hs).2
end tests
