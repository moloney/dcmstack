import DcmVerif.Proofs.Key.Insert
/-! The per-key loops of `from_sequence`: the accumulation over the inputs and the final `_simplify`
of a key that ended in global slices have one shape for the three axes (`mergeWith`); an invariant of
the step is an invariant of the loop. Position `i` of the merged key reads input `i` (C03); a merge along
a non-slice spatial axis keeps exactly the keys on which the inputs agree; the setups the callers supply. -/
set_option autoImplicit false
open Cls

section merge
variable {α : Type}

theorem foldK_inv (step : Nat → KeyState α → KeyState α → Except Err (KeyState α))
    (I : Nat → KeyState α → List (KeyState α) → Prop) (P : KeyState α → Prop)
    (hstep : ∀ k acc b done r, 0 < k → P b → I k acc done → step k acc b = .ok r →
      I (k + 1) r (done ++ [b]))
    (rest : List (KeyState α)) (hrest : ∀ b ∈ rest, P b) :
    ∀ k acc done r, 0 < k → I k acc done → foldK step k acc rest = .ok r →
      I (k + rest.length) r (done ++ rest) := by
  induction rest with
  | nil =>
    intro k acc done r _ hI h
    injection h with h; subst h
    simpa using hI
  | cons b rest ih =>
    intro k acc done r hk hI h
    simp only [foldK] at h
    cases hs : step k acc b with
    | error e => simp [hs] at h
    | ok acc' =>
      simp only [hs] at h
      have := ih (fun b' hb' => hrest b' (List.mem_cons_of_mem _ hb')) (k + 1) acc' (done ++ [b]) r
        (by omega) (hstep k acc b done acc' hk (hrest b List.mem_cons_self) hI hs) h
      simpa [Nat.add_assoc, Nat.add_comm 1] using this

theorem otherClass_valid {sh : Shp} {b : KeyState α} (h : ValidK sh b) : otherClass b ∈ validClasses sh := by
  match b, h with
  | none, _ => exact gconst_valid sh
  | some _, h => exact h.1

theorem getD_snoc {β : Type} (done : List (KeyState α)) (b : KeyState α) {k i : Nat}
    (hlen : done.length = k) (hi : i < k + 1) (F : KeyState α → β) :
    (if i < k then F (done[i]?.getD none) else F b) = F ((done ++ [b])[i]?.getD none) := by
  subst hlen
  by_cases h : i < done.length
  · rw [if_pos h, List.getElem?_append_left h]
  · rw [if_neg h, List.getElem?_append_right (by omega), show i - done.length = 0 by omega]; rfl

/-- a key valid for a shape is valid for, and reads the same in, any shape of the same extents
    that allows its class (`mult` and `proj` read nothing else of a shape) -/
theorem Den.lift {null : α} {sh osh : Shp} (hS : osh.S = sh.S) (hT : osh.T = sh.T) (hV : osh.V = sh.V)
    (hsl : osh.hasSlice = sh.hasSlice) (hvc : ∀ c, c ∈ validClasses osh → c ∈ validClasses sh)
    {a : KeyState α} (ha : ValidK osh a) : Den null sh a (lookupKS null osh a) := by
  match a, ha with
  | none, _ => exact den_none.mpr fun _ _ _ _ => rfl
  | some (c, vals), ⟨hc, hl⟩ =>
    refine ⟨⟨hvc c hc, hl.trans ?_⟩, fun s t v _ => ?_⟩
    · cases c <;> simp only [mult, hS, hT, hV, hsl]
    · cases c <;> simp only [lookupKS, proj, hS, hT]

theorem TimeSetup.other_class {sh osh : Shp} (hs : TimeSetup sh osh) {c : Cls}
    (hc : c ∈ validClasses osh) : c ∈ validClasses sh ∧ (c = gconst ∨ c = gslices) := by
  have h : c = gconst ∨ c = gslices := by simpa [validClasses, hs.ond] using hc
  exact ⟨by rcases h with rfl | rfl; exact gconst_valid _; exact gslices_valid _, h⟩

theorem VecSetup.other_class {sh osh : Shp} (hs : VecSetup sh osh) {c : Cls}
    (hc : c ∈ validClasses osh) : c ∈ validClasses sh ∧ c ≠ vsamples ∧ c ≠ vslices := by
  have hnd := hs.ond
  have := hs.nd5
  rw [mem_validClasses] at hc ⊢
  cases c
  case gconst | gslices => exact ⟨trivial, nofun, nofun⟩
  case tsamples | tslices =>
    exact ⟨⟨by omega, Or.inr (hnd.resolve_left fun h => hc.1 h.1).2⟩, nofun, nofun⟩
  case vsamples | vslices => exact (hnd.elim (fun h => hc.1 h.1) fun h => hc.2 h.1).elim

/-- the first input of a time merge, seen in the shape of the one-point result -/
theorem Den.liftT {null : α} {sh osh : Shp} (hs : TimeSetup sh osh) (hT1 : sh.T = 1)
    {a : KeyState α} (ha : ValidK osh a) : Den null sh a (lookupKS null osh a) :=
  Den.lift hs.oS (hs.oT.trans hT1.symm) (hs.oV.trans hs.v1.symm) (hs.ohsl.trans hs.hsl.symm)
    (fun _ hc => (hs.other_class hc).1) ha

theorem Den.liftV {null : α} {sh osh : Shp} (hs : VecSetup sh osh) (hV1 : sh.V = 1)
    {a : KeyState α} (ha : ValidK osh a) : Den null sh a (lookupKS null osh a) :=
  Den.lift hs.oS hs.oT (hs.oV.trans hV1.symm) (hs.ohsl.trans hs.hsl.symm)
    (fun _ hc => (hs.other_class hc).1) ha

theorem Agree.trans {null : α} {sh : Shp} {a b c : KeyState α} (h₁ : Agree null sh a b)
    (h₂ : Agree null sh b c) : Agree null sh a c :=
  fun s t v hs ht hv => (h₁ s t v hs ht hv).trans (h₂ s t v hs ht hv)

theorem Agree.symm {null : α} {sh : Shp} {a b : KeyState α} (h : Agree null sh a b) :
    Agree null sh b a := fun s t v hs ht hv => (h s t v hs ht hv).symm

theorem Den.agree {null : α} {sh : Shp} {a b : KeyState α} {f : Nat → Nat → Nat → Option α}
    (ha : Den null sh a f) (hb : Den null sh b f) : Agree null sh a b :=
  fun s t v hs ht hv => (ha.2 s t v ⟨hs, ht, hv⟩).trans (hb.2 s t v ⟨hs, ht, hv⟩).symm

variable [DecidableEq α]

/-- the last statement of `from_sequence`, for one key: `_simplify` if it ended in global slices -/
def finalSimplify (null : α) (sh : Shp) (r : KeyState α) : Except Err (KeyState α) :=
  match r with
  | some (gslices, _) => applySimplify null sh r
  | _ => .ok r

/-- `from_sequence` for one key, given the step along the axis and the shape after `k` inputs -/
def mergeWith (null : α) (step : Nat → KeyState α → KeyState α → Except Err (KeyState α))
    (shK : Nat → Shp) : List (KeyState α) → Except Err (KeyState α)
  | [] => .error .other
  | a :: rest =>
    match foldK step 1 a rest with
    | .error e => .error e
    | .ok r => finalSimplify null (shK (1 + rest.length)) r

theorem foldSliceK_eq (null : α) (sh1 : Shp) (rest : List (KeyState α)) (k : Nat) (acc : KeyState α) :
    foldSliceK null sh1 k acc rest =
      foldK (fun k acc b => stepSliceK null { sh1 with S := k } acc b) k acc rest := by
  induction rest generalizing k acc with
  | nil => rfl
  | cons b rest ih =>
    simp only [foldSliceK, foldK]
    cases stepSliceK null { sh1 with S := k } acc b with
    | error e => rfl
    | ok acc' => exact ih (k + 1) acc'

theorem mergeSliceK_eq (null : α) (sh1 : Shp) (inputs : List (KeyState α)) :
    mergeSliceK null sh1 inputs =
      mergeWith null (fun k acc b => stepSliceK null { sh1 with S := k } acc b)
        (fun k => { sh1 with S := k }) inputs := by
  cases inputs with
  | nil => rfl
  | cons a rest => simp only [mergeSliceK, mergeWith, foldSliceK_eq]; rfl

theorem mergeTimeK_eq (null : α) (sh1 osh : Shp) (inputs : List (KeyState α)) :
    mergeTimeK null sh1 osh inputs =
      mergeWith null (fun k acc b => stepSampleK null true { sh1 with T := k } osh acc b)
        (fun k => { sh1 with T := k }) inputs := by
  cases inputs <;> rfl

theorem mergeVecK_eq (null : α) (sh1 osh : Shp) (inputs : List (KeyState α)) :
    mergeVecK null sh1 osh inputs =
      mergeWith null (fun k acc b => stepSampleK null false { sh1 with V := k } osh acc b)
        (fun k => { sh1 with V := k }) inputs := by
  cases inputs <;> rfl

theorem Total.foldK_ok (step : Nat → KeyState α → KeyState α → Except Err (KeyState α))
    (hstep : ∀ k a b, ∃ r, step k a b = .ok r) (rest : List (KeyState α)) (k : Nat)
    (acc : KeyState α) : ∃ r, foldK step k acc rest = .ok r := by
  induction rest generalizing k acc with
  | nil => exact ⟨acc, rfl⟩
  | cons b rest ih =>
    obtain ⟨a', h⟩ := hstep k acc b
    simp only [foldK, h]
    exact ih (k + 1) a'

theorem mergeWith_run (null : α) (step : Nat → KeyState α → KeyState α → Except Err (KeyState α))
    (shK : Nat → Shp) (hstepok : ∀ k a b, ∃ r, step k a b = .ok r)
    (I : Nat → KeyState α → List (KeyState α) → Prop) (P : KeyState α → Prop)
    (hstep : ∀ k acc b done r, 0 < k → P b → I k acc done → step k acc b = .ok r →
      I (k + 1) r (done ++ [b]))
    (inputs : List (KeyState α)) (hne : inputs ≠ []) (hin : ∀ b ∈ inputs, P b)
    (h0 : ∀ a, P a → I 1 a [a]) :
    ∃ r0, I inputs.length r0 inputs ∧
      mergeWith null step shK inputs = finalSimplify null (shK inputs.length) r0 := by
  match inputs, hne with
  | a :: rest, _ =>
    obtain ⟨r0, hf⟩ := Total.foldK_ok step hstepok rest 1 a
    have := foldK_inv step I P hstep rest (fun b hb => hin b (List.mem_cons_of_mem _ hb)) 1 a [a]
      r0 Nat.one_pos (h0 a (hin a List.mem_cons_self)) hf
    rw [show (a :: rest).length = 1 + rest.length by simp; omega]
    exact ⟨r0, this, by simp only [mergeWith, hf]⟩

theorem mergeWith_ne {null : α} {step : Nat → KeyState α → KeyState α → Except Err (KeyState α)}
    {shK : Nat → Shp} {inputs : List (KeyState α)} {r : KeyState α}
    (h : mergeWith null step shK inputs = .ok r) : inputs ≠ [] := by
  rintro rfl; cases h

theorem finalSimplify_den (null : α) (sh : Shp) (wf : WF sh) (hsl : sh.hasSlice = true)
    (hbase : ∀ d, basePresent sh d = true → d ∈ validClasses sh)
    {r0 r : KeyState α} {f : Nat → Nat → Nat → Option α} (hd : Den null sh r0 f)
    (h : finalSimplify null sh r0 = .ok r) : Den null sh r f := by
  unfold finalSimplify at h
  split at h
  · exact applySimplify_den null sh wf hsl hbase hd (fun _ hv => by cases hv) h
  · injection h with h; subst h; exact hd

theorem finalSimplify_total (null : α) (sh : Shp) (wf : WF sh) (hsl : sh.hasSlice = true)
    {r0 : KeyState α} (hv : ValidK sh r0) : ∃ r, finalSimplify null sh r0 = .ok r := by
  unfold finalSimplify
  split
  · exact applySimplify_total null sh wf hsl _ hv
  · exact ⟨_, rfl⟩

/-! ### the three steps -/

theorem stepSlice_den (null : α) (sh : Shp) (hc : Consistent sh) {self b r : KeyState α}
    {f g : Nat → Nat → Nat → Option α} (hself : Den null sh self f)
    (hb : Den null { sh with S := 1 } b g) (h : stepSliceK null sh self b = .ok r) :
    Den null { sh with S := sh.S + 1 } r (glueS sh.S f g) ∧
    (nonSliceClass b →
      StepOut (XS sh) (glueS sh.S f g 0 0 0 ≠ glueS sh.S f g sh.S 0 0) self r) := by
  obtain ⟨hd, hout⟩ := stepWith_den null sh _ hc.toWFnd.toWF hc.hsl (consistent_base sh hc)
    (XS sh) _ hself (otherClass_valid (sh := { sh with S := 1 }) hb.1)
    (by
      rintro rfl rfl
      refine den_none.mpr fun s t v ⟨hs, ht, hv⟩ => ?_
      simp only [glueS]
      split
      · rename_i hlt; exact den_none.mp hself s t v ⟨hlt, ht, hv⟩
      · exact den_none.mp hb 0 t v ⟨Nat.one_pos, ht, hv⟩)
    (fun c lv hd hi => insertSlice_den null sh hc hd hb hi) h
  refine ⟨hd, fun hbn => hout fun x hx => ?_⟩
  -- the other input holds the key as a constant or per sample
  have hocn : otherClass b = gconst ∨ otherClass b = tsamples ∨ otherClass b = vsamples := by
    match b, hbn with
    | none, _ => exact Or.inl rfl
    | some _, hbn => exact hbn
  rcases hx with rfl | ⟨rfl, _⟩ <;> rcases hocn with e | e | e <;> simp [e, preserving]

theorem stepTime_den (null : α) (sh osh : Shp) (hs : TimeSetup sh osh) (hvec : sh.hasVector = false)
    {self b r : KeyState α} {f g : Nat → Nat → Nat → Option α} (hself : Den null sh self f)
    (hb : Den null osh b g) (h : stepSampleK null true sh osh self b = .ok r) :
    Den null { sh with T := sh.T + 1 } r (glueT sh.T f g) ∧
    StepOut (· = tsamples) (glueT sh.T f g 0 0 0 ≠ glueT sh.T f g 0 sh.T 0) self r := by
  have hocc := hs.other_class (otherClass_valid hb.1)
  obtain ⟨hd, hout⟩ := stepWith_den null sh _ hs.wf hs.hsl (base_valid4 hs.nd4 hvec)
    (· = tsamples) _ hself hocc.1
    (by
      rintro rfl rfl
      refine den_none.mpr fun s t v ⟨hs', ht, hv⟩ => ?_
      have hv0 : v < 1 := hs.v1 ▸ hv
      simp only [glueT]
      split
      · rename_i hlt; exact den_none.mp hself s t v ⟨hs', hlt, hv⟩
      · exact den_none.mp hb s 0 v ⟨hs.oS ▸ hs', by rw [hs.oT]; omega, by rw [hs.oV]; omega⟩)
    (fun c lv hd hi => insertTime_den null sh osh hs hd hb hi) h
  refine ⟨hd, hout ?_⟩
  rintro x rfl
  rcases hocc.2 with e | e <;> simp [e, preserving]

theorem stepVector_den (null : α) (sh osh : Shp) (hs : VecSetup sh osh)
    (htime : sh.hasTime = true → sh.T ≠ 1) {self b r : KeyState α}
    {f g : Nat → Nat → Nat → Option α} (hself : Den null sh self f) (hb : Den null osh b g)
    (h : stepSampleK null false sh osh self b = .ok r) :
    Den null { sh with V := sh.V + 1 } r (glueV sh.V f g) ∧
    StepOut (· = vsamples) (glueV sh.V f g 0 0 0 ≠ glueV sh.V f g 0 0 sh.V) self r := by
  -- the lower-dimensional input cannot hold the key per vector component
  have hoc := hs.other_class (otherClass_valid hb.1)
  obtain ⟨hd, hout⟩ := stepWith_den null sh _ hs.wf hs.hsl (base_valid5 hs.nd5 htime)
    (· = vsamples) _ hself hoc.1
    (by
      rintro rfl rfl
      refine den_none.mpr fun s t v ⟨hs', ht, hv⟩ => ?_
      simp only [glueV]
      split
      · rename_i hlt; exact den_none.mp hself s t v ⟨hs', ht, hlt⟩
      · exact den_none.mp hb s t 0 ⟨hs.oS ▸ hs', hs.oT ▸ ht, by rw [hs.oV]; omega⟩)
    (fun c lv hd hi => insertVector_den null sh osh hs hd hb hi) h
  refine ⟨hd, hout ?_⟩
  rintro x rfl
  refine ⟨hoc.2.1, fun hm => ?_⟩
  cases hob : otherClass b <;> rw [hob] at hm <;> simp [preserving] at hm

/-! ### position `i` of the merged key reads input `i` (C03) -/

/-- **C03, slice axis, per key:** the merge cannot fail, the merged key is valid for as many slices
    as there are inputs, and slice `i` reads input `i` (`null` where the input lacks the key) — any
    number of inputs, any consistent shape. -/
theorem mergeSlice_run (null : α) (sh1 : Shp) (hc1 : Consistent sh1) (inputs : List (KeyState α))
    (hne : inputs ≠ []) (hin : ∀ b, b ∈ inputs → ValidK { sh1 with S := 1 } b) :
    ∃ r, mergeSliceK null sh1 inputs = .ok r ∧ Den null { sh1 with S := inputs.length } r
      (fun s t v => lookupKS null { sh1 with S := 1 } (inputs[s]?.getD none) 0 t v) := by
  obtain ⟨r0, ⟨_, hd⟩, heq⟩ := mergeWith_run null _ (fun k => { sh1 with S := k })
    (fun k a b => Total.stepSliceK_ok null _ a b)
    (fun k acc done => done.length = k ∧ Den null { sh1 with S := k } acc
      (fun s t v => lookupKS null { sh1 with S := 1 } (done[s]?.getD none) 0 t v))
    (ValidK { sh1 with S := 1 })
    (by
      intro k acc b done r hk hb ⟨hlen, hd⟩ hs
      refine ⟨by simp [hlen],
        (stepSlice_den null { sh1 with S := k } (hc1.withS hk) hd (Den.self hb) hs).1.congr ?_⟩
      exact fun s t v hb => getD_snoc done b hlen hb.1 (lookupKS null { sh1 with S := 1 } · 0 t v))
    inputs hne hin
    (by
      intro a ha
      refine ⟨rfl, (Den.self ha).congr fun s t v ⟨hs, _, _⟩ => ?_⟩
      obtain rfl : s = 0 := by have : s < 1 := hs; omega
      rfl)
  have hcn := hc1.withS (List.length_pos_iff.mpr hne)
  obtain ⟨r, hr⟩ := finalSimplify_total null _ hcn.toWFnd.toWF hc1.hsl hd.1
  exact ⟨r, by rw [mergeSliceK_eq, heq, hr],
    finalSimplify_den null _ hcn.toWFnd.toWF hc1.hsl (consistent_base _ hcn) hd hr⟩

theorem mergeSlice_den (null : α) (sh1 : Shp) (hc1 : Consistent sh1) (inputs : List (KeyState α))
    (hin : ∀ b, b ∈ inputs → ValidK { sh1 with S := 1 } b) {r : KeyState α}
    (h : mergeSliceK null sh1 inputs = .ok r) :
    Den null { sh1 with S := inputs.length } r
      (fun s t v => lookupKS null { sh1 with S := 1 } (inputs[s]?.getD none) 0 t v) :=
  Den.of_run (mergeSlice_run null sh1 hc1 inputs (by rintro rfl; cases h) hin) h

/-- **C03, time axis (3-D inputs → 4-D), per key:** the merge cannot fail, and time point `i` of
    the result reads input `i` -/
theorem mergeTime_run (null : α) (sh1 osh : Shp)
    (hs : ∀ k, 0 < k → TimeSetup { sh1 with T := k } osh) (hvec : sh1.hasVector = false)
    (inputs : List (KeyState α)) (hne : inputs ≠ []) (hin : ∀ b, b ∈ inputs → ValidK osh b) :
    ∃ r, mergeTimeK null sh1 osh inputs = .ok r ∧ Den null { sh1 with T := inputs.length } r
      (fun s t v => lookupKS null osh (inputs[t]?.getD none) s 0 v) := by
  obtain ⟨r0, ⟨_, hd⟩, heq⟩ := mergeWith_run null _ (fun k => { sh1 with T := k })
    (fun k a b => Total.stepSampleK_ok null true _ osh a b)
    (fun k acc done => done.length = k ∧ Den null { sh1 with T := k } acc
      (fun s t v => lookupKS null osh (done[t]?.getD none) s 0 v))
    (ValidK osh)
    (by
      intro k acc b done r hk hb ⟨hlen, hd⟩ hst
      refine ⟨by simp [hlen],
        (stepTime_den null { sh1 with T := k } osh (hs k hk) hvec hd (Den.self hb) hst).1.congr ?_⟩
      exact fun s t v hb => getD_snoc done b hlen hb.2.1 (lookupKS null osh · s 0 v))
    inputs hne hin
    (fun a ha => ⟨rfl, (Den.liftT (hs 1 Nat.one_pos) rfl ha).congr fun s t v ⟨_, ht, _⟩ => by
      obtain rfl : t = 0 := by have : t < 1 := ht; omega
      rfl⟩)
  have hsn := hs _ (List.length_pos_iff.mpr hne)
  obtain ⟨r, hr⟩ := finalSimplify_total null _ hsn.wf hsn.hsl hd.1
  exact ⟨r, by rw [mergeTimeK_eq, heq, hr],
    finalSimplify_den null _ hsn.wf hsn.hsl (base_valid4 hsn.nd4 hvec) hd hr⟩

theorem mergeTime_den (null : α) (sh1 osh : Shp)
    (hs : ∀ k, 0 < k → TimeSetup { sh1 with T := k } osh) (hvec : sh1.hasVector = false)
    (inputs : List (KeyState α)) (hin : ∀ b, b ∈ inputs → ValidK osh b) {r : KeyState α}
    (h : mergeTimeK null sh1 osh inputs = .ok r) :
    Den null { sh1 with T := inputs.length } r
      (fun s t v => lookupKS null osh (inputs[t]?.getD none) s 0 v) :=
  Den.of_run (mergeTime_run null sh1 osh hs hvec inputs (by rintro rfl; cases h) hin) h

/-- **C03, vector axis (3-D / 4-D inputs → 5-D), per key:** the merge cannot fail, and component
    `i` of the result reads input `i` -/
theorem mergeVec_run (null : α) (sh1 osh : Shp)
    (hs : ∀ k, 0 < k → VecSetup { sh1 with V := k } osh) (htime : sh1.hasTime = true → sh1.T ≠ 1)
    (inputs : List (KeyState α)) (hne : inputs ≠ []) (hin : ∀ b, b ∈ inputs → ValidK osh b) :
    ∃ r, mergeVecK null sh1 osh inputs = .ok r ∧ Den null { sh1 with V := inputs.length } r
      (fun s t v => lookupKS null osh (inputs[v]?.getD none) s t 0) := by
  obtain ⟨r0, ⟨_, hd⟩, heq⟩ := mergeWith_run null _ (fun k => { sh1 with V := k })
    (fun k a b => Total.stepSampleK_ok null false _ osh a b)
    (fun k acc done => done.length = k ∧ Den null { sh1 with V := k } acc
      (fun s t v => lookupKS null osh (done[v]?.getD none) s t 0))
    (ValidK osh)
    (by
      intro k acc b done r hk hb ⟨hlen, hd⟩ hst
      refine ⟨by simp [hlen],
        (stepVector_den null { sh1 with V := k } osh (hs k hk) htime hd (Den.self hb) hst).1.congr ?_⟩
      exact fun s t v hb => getD_snoc done b hlen hb.2.2 (lookupKS null osh · s t 0))
    inputs hne hin
    (fun a ha => ⟨rfl, (Den.liftV (hs 1 Nat.one_pos) rfl ha).congr fun s t v ⟨_, _, hv⟩ => by
      obtain rfl : v = 0 := by have : v < 1 := hv; omega
      rfl⟩)
  have hsn := hs _ (List.length_pos_iff.mpr hne)
  obtain ⟨r, hr⟩ := finalSimplify_total null _ hsn.wf hsn.hsl hd.1
  exact ⟨r, by rw [mergeVecK_eq, heq, hr],
    finalSimplify_den null _ hsn.wf hsn.hsl (base_valid5 hsn.nd5 htime) hd hr⟩

theorem mergeVec_den (null : α) (sh1 osh : Shp)
    (hs : ∀ k, 0 < k → VecSetup { sh1 with V := k } osh) (htime : sh1.hasTime = true → sh1.T ≠ 1)
    (inputs : List (KeyState α)) (hin : ∀ b, b ∈ inputs → ValidK osh b) {r : KeyState α}
    (h : mergeVecK null sh1 osh inputs = .ok r) :
    Den null { sh1 with V := inputs.length } r
      (fun s t v => lookupKS null osh (inputs[v]?.getD none) s t 0) :=
  Den.of_run (mergeVec_run null sh1 osh hs htime inputs (by rintro rfl; cases h) hin) h

/-! ### what the callers of the merge theorems supply -/

/-- the setups of the merge theorems, from the facts the statements spell out -/
theorem timeSetup_of {sh1 osh : Shp} (hS : 0 < sh1.S) (hsl : sh1.hasSlice = true) (nd4 : sh1.nd = 4)
    (v1 : sh1.V = 1) (ond : osh.nd = 3) (oS : osh.S = sh1.S) (oT : osh.T = 1) (oV : osh.V = 1)
    (ohsl : osh.hasSlice = true) : ∀ k, 0 < k → TimeSetup { sh1 with T := k } osh := fun k hk =>
  { wf := ⟨hS, hk, by rw [v1]; exact Nat.one_pos⟩, hsl := hsl, nd4 := nd4, v1 := v1, ond := ond,
    oS := oS, oT := oT, oV := oV, ohsl := ohsl }

theorem vecSetup_of {sh1 osh : Shp} (hS : 0 < sh1.S) (hT : 0 < sh1.T) (hsl : sh1.hasSlice = true)
    (nd5 : sh1.nd = 5) (ohsl : osh.hasSlice = true) (oS : osh.S = sh1.S) (oT : osh.T = sh1.T)
    (oV : osh.V = 1) (ond : (osh.nd = 3 ∧ sh1.T = 1) ∨ (osh.nd = 4 ∧ sh1.T ≠ 1)) :
    ∀ k, 0 < k → VecSetup { sh1 with V := k } osh := fun _ hk =>
  { wf := ⟨hS, hT, hk⟩, hsl := hsl, nd5 := nd5, ohsl := ohsl, oS := oS, oT := oT, oV := oV,
    ond := ond }

/-! ### merging along a non-slice spatial axis keeps exactly the agreeing keys (C03) -/

theorem stepNonSlice_spec (null : α) (sh : Shp) (hc : Consistent sh)
    (self b : KeyState α) (hself : ValidK sh self) (hb : ValidK sh b)
    (r : KeyState α) (h : stepNonSliceK null sh self b = .ok r) :
    ValidK sh r ∧
    (Agree null sh self b → Agree null sh r self) ∧
    (¬ Agree null sh self b → r = none) := by
  have wf : WF sh := hc.toWFnd.toWF
  rw [stepNonSliceK] at h
  split at h
  · rename_i hnn
    obtain ⟨rfl, rfl⟩ := hnn
    injection h with h; subst h
    exact ⟨trivial, fun h => h, fun _ => rfl⟩
  · cases hr : reclassifyK null sh self (otherClass b) with
    | error e => simp [hr] at h
    | ok a1 =>
      obtain ⟨⟨c, lv, rfl⟩, hd⟩ := reclassify_den null sh wf hc.hsl (consistent_base sh hc)
        (Den.self hself) (otherClass_valid hb) hr
      simp only [hr, insertNonSliceK] at h
      cases hg : getChangedK null sh b c with
      | error e => simp [hg] at h
      | ok ov =>
        simp only [hg, Except.ok.injEq] at h
        have hov := getChanged_tab null sh wf hc.hsl (Den.self hb) (Or.inl hd.1.1) hg
        have hlv := (den_some.mp hd).2
        -- the two lists are equal iff the two sides read the same everywhere
        by_cases heq : lv = ov
        · subst heq; rw [if_pos rfl] at h; subst h
          exact ⟨hd.1, fun _ => hd.agree (Den.self hself), fun hna =>
            absurd ((Den.self hself).agree hd |>.trans
              ((den_some.mpr ⟨hd.1.1, hov⟩ : Den null sh (some (c, lv)) _).agree (Den.self hb))) hna⟩
        · rw [if_neg heq] at h; subst h
          refine ⟨trivial, fun hag => absurd ?_ heq, fun _ => rfl⟩
          exact Tab.ext wf hc.hsl hlv (hov.congr fun s t v ⟨hs, ht, hv⟩ => (hag s t v hs ht hv).symm)

/-- **C03, non-slice spatial axis, per key:** if every input agrees with the first one at every
    position the key is kept with those values; as soon as one disagrees the key reads `null`
    everywhere (it is dropped, or survives only as a `null` constant). -/
theorem mergeNonSlice_spec (null : α) (sh : Shp) (hc : Consistent sh) (rest : List (KeyState α)) :
    ∀ (a acc r : KeyState α), ValidK sh acc → (∀ b, b ∈ rest → ValidK sh b) →
      (Agree null sh acc a ∨ Agree null sh acc none) →
      foldNonSliceK null sh acc rest = .ok r →
      ValidK sh r ∧
      ((Agree null sh acc a ∧ ∀ b, b ∈ rest → Agree null sh a b) → Agree null sh r a) ∧
      ((Agree null sh acc none ∨ ∃ b, b ∈ rest ∧ ¬ Agree null sh a b) → Agree null sh r none ∨
        Agree null sh r a ∧ Agree null sh a none) := by
  induction rest with
  | nil =>
    intro a acc r hv _ hpre h
    injection h with h; subst h
    refine ⟨hv, fun hh => hh.1, fun hh => ?_⟩
    rcases hh with h1 | ⟨b, hb, _⟩
    · exact Or.inl h1
    · simp at hb
  | cons b rest ih =>
    intro a acc r hv hrest hpre h
    simp only [foldNonSliceK] at h
    cases hs : stepNonSliceK null sh acc b with
    | error e => simp [hs] at h
    | ok acc' =>
      simp only [hs] at h
      obtain ⟨hv', hag, hdis⟩ := stepNonSlice_spec null sh hc acc b hv (hrest b List.mem_cons_self) acc' hs
      have hnone : Agree null sh (none : KeyState α) none := fun _ _ _ _ _ _ => rfl
      -- after the step the accumulator still reads `a`, or `null`
      have hacc' : Agree null sh acc' a ∨ Agree null sh acc' none := by
        by_cases hab : Agree null sh acc b
        · exact hpre.imp (hag hab).trans (hag hab).trans
        · rw [hdis hab]; exact Or.inr hnone
      obtain ⟨ihv, ih1, ih2⟩ := ih a acc' r hv' (fun b' hb' => hrest b' (List.mem_cons_of_mem _ hb')) hacc' h
      refine ⟨ihv, fun ⟨hacca, hall⟩ => ?_, fun hh => ?_⟩
      · exact ih1 ⟨(hag (hacca.trans (hall b List.mem_cons_self))).trans hacca,
          fun b' hb' => hall b' (List.mem_cons_of_mem _ hb')⟩
      · by_cases hab : Agree null sh acc b
        · rcases hh with hn | ⟨b', hb', hnb'⟩
          · exact ih2 (Or.inl ((hag hab).trans hn))
          · rcases List.mem_cons.mp hb' with rfl | e
            · -- acc agrees with b' but a does not: then acc does not read a, so it reads null
              rcases hpre with hp | hp
              · exact absurd (hp.symm.trans hab) hnb'
              · exact ih2 (Or.inl ((hag hab).trans hp))
            · exact ih2 (Or.inr ⟨b', e, hnb'⟩)
        · rw [hdis hab] at ih2
          exact ih2 (Or.inl hnone)
end merge
