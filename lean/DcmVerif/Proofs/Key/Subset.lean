import DcmVerif.Proofs.Key.Simplify
/-! `get_subset` on one key (C04): `_copy_slice`, `_copy_sample`, `_global_slice_subset` and the
`_simplify` calls that follow. The piece is valid for the shape of the piece and reads the parent at
the fixed index. -/
set_option autoImplicit false
open Cls

section subset
variable {α : Type}

/-! ### the shapes of the pieces -/

theorem timeSubsetShp_dims (sh : Shp) :
    (timeSubsetShp sh).S = sh.S ∧ (timeSubsetShp sh).T = 1 ∧ (timeSubsetShp sh).V = sh.V ∧
      (timeSubsetShp sh).hasSlice = sh.hasSlice ∧
      (timeSubsetShp sh).nd = if sh.nd = 4 then 3 else sh.nd := by
  unfold timeSubsetShp; split <;> exact ⟨rfl, rfl, rfl, rfl, rfl⟩

theorem vecSubsetShp_dims (sh : Shp) :
    (vecSubsetShp sh).S = sh.S ∧ (vecSubsetShp sh).T = sh.T ∧ (vecSubsetShp sh).V = 1 ∧
      (vecSubsetShp sh).hasSlice = sh.hasSlice ∧
      (vecSubsetShp sh).nd = if sh.T = 1 then 3 else 4 := by
  unfold vecSubsetShp; split <;> exact ⟨rfl, rfl, rfl, rfl, rfl⟩

theorem Box.timeSubset {sh : Shp} {s v : Nat} (hs : s < sh.S) (hv : v < sh.V) :
    Box (timeSubsetShp sh) s 0 v := by
  obtain ⟨hS, hT, hV, -⟩ := timeSubsetShp_dims sh
  exact ⟨hS ▸ hs, hT ▸ Nat.one_pos, hV ▸ hv⟩

theorem Box.vecSubset {sh : Shp} {s t : Nat} (hs : s < sh.S) (ht : t < sh.T) :
    Box (vecSubsetShp sh) s t 0 := by
  obtain ⟨hS, hT, hV, -⟩ := vecSubsetShp_dims sh
  exact ⟨hS ▸ hs, hT ▸ ht, hV ▸ Nat.one_pos⟩

theorem Consistent.timeSubset {sh : Shp} (hc : Consistent sh) (h45 : sh.nd = 4 ∨ sh.nd = 5) :
    Consistent (timeSubsetShp sh) := by
  unfold timeSubsetShp
  split
  · rename_i h4
    exact { hS := hc.hS, hT := Nat.one_pos, hV := hc.hV, hnd := Or.inl rfl,
            h3 := fun _ => ⟨rfl, hc.h4 h4⟩, h4 := nofun, hsl := hc.hsl,
            htime := ⟨nofun, fun h => absurd rfl h.2⟩, hvec := ⟨nofun, nofun⟩,
            trimmed4 := nofun }
  · rename_i h4
    have h5 : sh.nd = 5 := h45.resolve_left h4
    exact { hS := hc.hS, hT := Nat.one_pos, hV := hc.hV, hnd := Or.inr (Or.inr h5),
            h3 := fun h => absurd (h5.symm.trans h) (by decide),
            h4 := fun h => absurd h h4, hsl := hc.hsl,
            htime := ⟨nofun, fun h => absurd rfl h.2⟩, hvec := hc.hvec,
            trimmed4 := fun h => absurd h h4 }

theorem Consistent.vecSubset {sh : Shp} (hc : Consistent sh) (h5 : sh.nd = 5) :
    Consistent (vecSubsetShp sh) := by
  unfold vecSubsetShp
  split
  · rename_i hT1
    have hnt : sh.hasTime = false := Bool.eq_false_iff.mpr fun h => (hc.htime.mp h).2 hT1
    exact { hS := hc.hS, hT := hc.hT, hV := Nat.one_pos, hnd := Or.inl rfl,
            h3 := fun _ => ⟨hT1, rfl⟩, h4 := nofun, hsl := hc.hsl,
            htime := ⟨fun h => absurd (hnt ▸ h) nofun, fun h => absurd hT1 h.2⟩,
            hvec := ⟨nofun, nofun⟩, trimmed4 := nofun }
  · rename_i hT1
    exact { hS := hc.hS, hT := hc.hT, hV := Nat.one_pos, hnd := Or.inr (Or.inl rfl),
            h3 := nofun, h4 := fun _ => rfl, hsl := hc.hsl,
            htime := ⟨fun _ => ⟨Nat.le_refl 4, hT1⟩, fun _ => hc.htime.mpr ⟨h5 ▸ by decide, hT1⟩⟩,
            hvec := ⟨nofun, nofun⟩, trimmed4 := fun _ => hT1 }

/-! ### `_copy_slice` -/

theorem copySliceVals_spec (S M k idx : Nat) (hidx : idx < S) (vals : List α)
    (hlen : vals.length = S * M) (hM : 0 < M) (hk : 0 < k) :
    (copySliceVals S (M * k) idx vals).length = M * k ∧
    ∀ j, j < M * k → (copySliceVals S (M * k) idx vals)[j]? = vals[idx + j % M * S]? := by
  have hS : 0 < S := Nat.zero_lt_of_lt hidx
  have hsub := length_stride_drop S M idx hidx vals hlen
  simp only [copySliceVals, hsub]
  split
  · rw [Nat.mul_div_cancel_left _ hM]
    refine ⟨by rw [length_tile, hsub, Nat.mul_comm], fun j hj => ?_⟩
    rw [getElem?_tile _ _ _ (by rw [hsub, Nat.mul_comm]; exact hj), hsub, getElem?_stride_drop _ _ _ hS]
  · rename_i h
    obtain rfl : k = 1 := Nat.le_antisymm
      (Nat.le_of_not_lt fun h1 => h (by simpa using Nat.mul_lt_mul_of_pos_left h1 hM)) hk
    rw [Nat.mul_one]
    refine ⟨hsub, fun j hj => ?_⟩
    rw [getElem?_stride_drop _ _ _ hS, Nat.mod_eq_of_lt hj]

/-- `_copy_slice` into class `d`: the parent holds `M` values per slice position, the destination
    `M * k` (the `M` values `k` times over), and the destination's index modulo `M` is the parent's
    index past the slice coordinate -/
theorem copySliceVals_tab (sh : Shp) (hsl : sh.hasSlice = true) {c d : Cls} {vals : List α}
    {f : Nat → Nat → Nat → Option α} (ht : Tab sh c vals f) {idx : Nat} (hidx : idx < sh.S)
    (M k : Nat) (hM : 0 < M) (hk : 0 < k) (hm : mult sh c = sh.S * M)
    (hmd : mult (sliceSubsetShp sh) d = M * k)
    (hp : ∀ t v, t < sh.T → v < sh.V →
      proj sh idx t v c = idx + proj (sliceSubsetShp sh) 0 t v d % M * sh.S) :
    Tab (sliceSubsetShp sh) d (copySliceVals sh.S (mult (sliceSubsetShp sh) d) idx vals)
      (fun _ t v => f idx t v) := by
  rw [hmd]
  obtain ⟨hl, hg⟩ := copySliceVals_spec sh.S M k idx hidx vals (ht.1.trans hm) hM hk
  refine ⟨hl.trans hmd.symm, fun s t v hb => ?_⟩
  obtain rfl : s = 0 := Nat.lt_one_iff.mp hb.1
  rw [hg _ (hmd ▸ proj_lt_mult (sliceSubsetShp sh) hsl d hb), ← hp t v hb.2.1 hb.2.2]
  exact ht.2 idx t v ⟨hidx, hb.2⟩

/-- **`_copy_slice`** stores the parent's values at slice `idx`, in a class that is never per slice -/
theorem copySlice_tab (sh : Shp) (wf : WFnd sh) (hsl : sh.hasSlice = true) {c : Cls}
    (hps : perSlice c = true) (hv : c ∈ validClasses sh) {vals : List α}
    {f : Nat → Nat → Nat → Option α} (ht : Tab sh c vals f) (idx : Nat) (hidx : idx < sh.S) :
    let rs := sliceSubsetShp sh
    let d := copySliceDest (validClasses rs) c
    d ∈ validClasses rs ∧ (d = gconst ∨ d = tsamples ∨ d = vsamples) ∧
      Tab rs d (copySliceVals sh.S (mult rs d) idx vals) (fun _ t v => f idx t v) := by
  obtain ⟨⟨hS, hT, hV⟩, _, h3, _⟩ := wf
  have tab := fun d => copySliceVals_tab sh hsl (d := d) ht hidx
  have hts : tsamples ∈ validClasses sh ↔ sh.nd ≠ 3 ∧ (sh.nd = 4 ∨ sh.T ≠ 1) :=
    mem_validClasses sh _
  have hvs : vsamples ∈ validClasses sh ↔ sh.nd ≠ 3 ∧ sh.nd ≠ 4 := mem_validClasses sh _
  intro rs d
  cases c
  case gconst | tsamples | vsamples => cases hps
  case gslices =>
    -- the sample class of the slowest axis present
    have hm : mult sh gslices = sh.S * (sh.T * sh.V) := by rw [mult, if_pos hsl, Nat.mul_assoc]
    by_cases h1 : tsamples ∈ validClasses sh
    · rw [show d = tsamples from if_pos h1]
      exact ⟨h1, Or.inr (Or.inl rfl), tab _ (sh.T * sh.V) 1 (Nat.mul_pos hT hV) Nat.one_pos hm
        (Nat.mul_one _).symm fun t v ht hv => by
          show idx + sh.S * (t + sh.T * v) = idx + (t + sh.T * v) % (sh.T * sh.V) * sh.S
          rw [Nat.mod_eq_of_lt (lt_mul_of' _ _ _ _ ht hv), Nat.mul_comm]⟩
    · by_cases h2 : vsamples ∈ validClasses sh
      · -- 5-D with one time point
        have hT1 : sh.T = 1 := Decidable.of_not_not fun h => h1 (hts.2 ⟨(hvs.1 h2).1, Or.inr h⟩)
        rw [show d = vsamples from (if_neg h1).trans (if_pos h2)]
        exact ⟨h2, Or.inr (Or.inr rfl), tab _ sh.V 1 hV Nat.one_pos (by rw [hm, hT1, Nat.one_mul])
          (Nat.mul_one _).symm fun t v ht hv => by
            obtain rfl : t = 0 := Nat.lt_one_iff.mp (hT1 ▸ ht)
            show idx + sh.S * (0 + sh.T * v) = idx + v % sh.V * sh.S
            rw [Nat.mod_eq_of_lt hv, hT1, Nat.zero_add, Nat.one_mul, Nat.mul_comm]⟩
      · -- 3-D
        obtain ⟨hT1, hV1⟩ := h3 (Decidable.of_not_not fun h =>
          h2 (hvs.2 ⟨h, fun h4 => h1 (hts.2 ⟨h, Or.inl h4⟩)⟩))
        rw [show d = gconst from (if_neg h1).trans (if_neg h2)]
        exact ⟨gconst_valid _, Or.inl rfl, tab _ 1 1 Nat.one_pos Nat.one_pos (by rw [hm, hT1, hV1])
          rfl fun t v ht hv => by
            obtain rfl : t = 0 := Nat.lt_one_iff.mp (hT1 ▸ ht)
            obtain rfl : v = 0 := Nat.lt_one_iff.mp (hV1 ▸ hv)
            simp [proj]⟩
  case tslices =>
    -- one value is left
    exact ⟨gconst_valid _, Or.inl rfl, tab gconst 1 1 Nat.one_pos Nat.one_pos
      (by rw [mult, if_pos hsl, Nat.mul_one]) rfl fun t v ht hv => by simp [proj]⟩
  case vslices =>
    have hm : mult sh vslices = sh.S * sh.T := by rw [mult, if_pos hsl]
    by_cases h1 : tsamples ∈ validClasses sh
    · -- the values of one slice position over time, once per vector component
      rw [show d = tsamples from if_pos h1]
      exact ⟨h1, Or.inr (Or.inl rfl), tab _ sh.T sh.V hT hV hm rfl fun t v ht hv => by
        show idx + sh.S * t = idx + (t + sh.T * v) % sh.T * sh.S
        rw [add_mul_mod' _ _ _ ht, Nat.mul_comm]⟩
    · -- one time point
      have hT1 : sh.T = 1 := Decidable.of_not_not fun h =>
        h1 (hts.2 ⟨((mem_validClasses sh vslices).1 hv).1, Or.inr h⟩)
      rw [show d = gconst from if_neg h1]
      exact ⟨gconst_valid _, Or.inl rfl, tab _ 1 1 Nat.one_pos Nat.one_pos (by rw [hm, hT1]) rfl
        fun t v ht hv => by
          obtain rfl : t = 0 := Nat.lt_one_iff.mp (hT1 ▸ ht)
          simp [proj]⟩

/-! ### `_copy_sample` -/

/-- **`_copy_sample(…, 'time', idx)`**, every non-constant class, before the `_simplify` calls: the
    stored key is valid for the piece and reads the parent at time point `idx` -/
theorem copySampleTime_tab (sh : Shp) (hc : Consistent sh) (h45 : sh.nd = 4 ∨ sh.nd = 5)
    (hV2 : sh.nd = 5 → 2 ≤ sh.V) {c : Cls} (hcg : c ≠ gconst) (hcv : c ∈ validClasses sh)
    {vals : List α} {f : Nat → Nat → Nat → Option α} (ht : Tab sh c vals f) (idx : Nat)
    (hidx : idx < sh.T) :
    let rs := timeSubsetShp sh
    let out := copySampleK sh rs true idx c vals
    out.1 ∈ validClasses rs ∧ Tab rs out.1 out.2.1 (fun s _ v => f s idx v) := by
  obtain ⟨hlen, hlk⟩ := ht
  have hsl := hc.hsl
  obtain ⟨rS, rT, rV, rsl, rnd⟩ := timeSubsetShp_dims sh
  rw [hsl] at rsl
  -- position `(s, 0, v)` of the piece stands for position `(s, idx, v)` of the parent
  have tab : ∀ {d : Cls} {out : List α}, out.length = mult (timeSubsetShp sh) d →
      (∀ s v, s < sh.S → v < sh.V →
        out[proj (timeSubsetShp sh) s 0 v d]? = vals[proj sh s idx v c]?) →
      Tab (timeSubsetShp sh) d out (fun s _ v => f s idx v) := fun hl h =>
    ⟨hl, fun s t v hb => by
      obtain rfl : t = 0 := Nat.lt_one_iff.mp (rT ▸ hb.2.1)
      exact (h s v (rS ▸ hb.1) (rV ▸ hb.2.2)).trans
        (hlk s idx v ⟨rS ▸ hb.1, hidx, rV ▸ hb.2.2⟩)⟩
  intro rs out
  rcases h45 with h4 | h5
  · -- 4-D parent: the piece is 3-D
    have hV1 := hc.h4 h4
    have hnd : rs.nd = 3 := rnd.trans (if_pos h4)
    have hv0 : ∀ {v}, v < sh.V → v = 0 := fun h => Nat.lt_one_iff.mp (hV1 ▸ h)
    cases c
    case gconst => exact absurd rfl hcg
    case vsamples | vslices => exact absurd h4 ((mem_validClasses sh _).1 hcv).2
    case gslices =>
      rw [show out = (gslices, (vals.drop (idx * sh.S)).take sh.S, true) by
        simp [out, copySampleK, globalSliceSubset, mem_validClasses, h4]]
      refine ⟨gslices_valid _, tab ?_ fun s v hs hv => ?_⟩
      · rw [length_block _ _ idx sh.T (by rw [hlen]; simp [mult, hsl, hV1]) hidx]
        simp [mult, rsl, rS, rT, rV, hV1]
      · obtain rfl := hv0 hv
        simp only [proj, rS, Nat.mul_zero, Nat.add_zero]
        exact getElem?_block _ _ _ _ hs
    case tsamples =>
      have hi : idx < vals.length := by rw [hlen, mult, hV1, Nat.mul_one]; exact hidx
      rw [show out = (gconst, (vals[idx]?).toList, false) by
        simp [out, copySampleK, mem_validClasses, hnd, mult]]
      refine ⟨gconst_valid _, tab (by rw [List.getElem?_eq_getElem hi]; rfl) fun s v hs hv => ?_⟩
      obtain rfl := hv0 hv
      simp only [proj, Nat.mul_zero, Nat.add_zero]
      cases vals[idx]? <;> rfl
    case tslices =>
      rw [show out = (gslices, vals, false) by
        simp [out, copySampleK, preserving, mem_validClasses, hnd]]
      refine ⟨gslices_valid _, tab (by rw [hlen]; simp [mult, hsl, rsl, rS, rT, rV, hV1])
        fun s v hs hv => ?_⟩
      obtain rfl := hv0 hv
      simp [proj]
  · -- 5-D parent: the piece stays 5-D, with one time point
    have hnd : rs.nd ≠ 3 ∧ rs.nd ≠ 4 := by
      rw [show rs.nd = 5 from rnd.trans (by rw [h5]; rfl)]; decide
    have hvs : ∀ d, d = vsamples ∨ d = vslices → d ∈ validClasses rs := by
      rintro d (rfl | rfl) <;> exact (mem_validClasses rs _).2 hnd
    cases c
    case gconst => exact absurd rfl hcg
    case gslices =>
      -- the time point out of every vector component: block `idx + T * v` of `T * V` blocks
      let g : Nat → List α := fun vec => (vals.drop (vec * (sh.S * sh.T) + idx * sh.S)).take sh.S
      have hg : ∀ v, g v = (vals.drop ((idx + sh.T * v) * sh.S)).take sh.S := fun v => by
        simp only [g]
        rw [Nat.add_mul, Nat.mul_comm sh.T v, Nat.mul_assoc, Nat.mul_comm sh.T, Nat.add_comm]
      have hgl : ∀ v, v < sh.V → (g v).length = sh.S := fun v hv => by
        rw [hg]
        exact length_block _ _ _ (sh.T * sh.V)
          (by rw [hlen, mult, if_pos hsl, Nat.mul_assoc]; exact Nat.le_refl _)
          (lt_mul_of' _ _ _ _ hidx hv)
      rw [show out = (gslices, (List.range sh.V).flatMap g, true) by
        simp [out, copySampleK, globalSliceSubset, mem_validClasses, h5, g]]
      refine ⟨gslices_valid _, tab ?_ fun s v hs hv => ?_⟩
      · rw [length_flatMap_range sh.S g sh.V hgl]; simp [mult, rsl, rS, rT, rV]
      · simp only [proj, rS, rT, Nat.one_mul, Nat.zero_add]
        rw [getElem?_flatMap_range sh.S g sh.V hgl v s hv hs, hg]
        exact getElem?_block _ _ _ _ hs
    case tsamples =>
      have hm : mult rs vsamples = sh.V := rV
      rw [show out = (vsamples, stride sh.T (vals.drop idx), true) by
        simp [out, copySampleK, hvs, hm, show sh.V ≠ 1 by have := hV2 h5; omega]]
      refine ⟨hvs _ (Or.inl rfl), tab ?_ fun s v hs hv => ?_⟩
      · exact (length_stride_drop sh.T sh.V idx hidx vals (by rw [hlen]; simp [mult])).trans rV.symm
      · simp only [proj]
        rw [getElem?_stride_drop _ _ _ hc.hT, Nat.mul_comm]
    case tslices =>
      rw [show out = (vslices, vals, false) by simp [out, copySampleK, preserving, hvs]]
      refine ⟨hvs _ (Or.inr rfl), tab (by rw [hlen]; simp [mult, hsl, rsl, rS, rT])
        fun s v hs hv => ?_⟩
      simp [proj]
    case vsamples =>
      rw [show out = (vsamples, vals, false) by simp [out, copySampleK]]
      exact ⟨hvs _ (Or.inl rfl), tab (hlen.trans rV.symm) fun s v hs hv => rfl⟩
    case vslices =>
      rw [show out = (vslices, (vals.drop (idx * sh.S)).take sh.S, true) by
        simp [out, copySampleK, show rs.S = sh.S from rS]]
      refine ⟨hvs _ (Or.inr rfl), tab ?_ fun s v hs hv => ?_⟩
      · rw [length_block _ _ idx sh.T (by rw [hlen]; simp [mult, hsl]) hidx]; simp [mult, rsl, rS, rT]
      · simp only [proj, Nat.mul_zero, Nat.add_zero]
        exact getElem?_block _ _ _ _ hs

/-- **`_copy_sample(…, 'vector', idx)`**, every non-constant class, before the `_simplify` calls -/
theorem copySampleVec_tab (sh : Shp) (hc : Consistent sh) (h5 : sh.nd = 5) {c : Cls}
    (hcg : c ≠ gconst) (hcv : c ∈ validClasses sh) {vals : List α}
    {f : Nat → Nat → Nat → Option α} (ht : Tab sh c vals f) (idx : Nat) (hidx : idx < sh.V) :
    let rs := vecSubsetShp sh
    let out := copySampleK sh rs false idx c vals
    out.1 ∈ validClasses rs ∧ Tab rs out.1 out.2.1 (fun s t _ => f s t idx) := by
  obtain ⟨hlen, hlk⟩ := ht
  have hsl := hc.hsl
  obtain ⟨rS, rT, rV, rsl, rnd⟩ := vecSubsetShp_dims sh
  rw [hsl] at rsl
  -- position `(s, t, 0)` of the piece stands for position `(s, t, idx)` of the parent
  have tab : ∀ {d : Cls} {out : List α}, out.length = mult (vecSubsetShp sh) d →
      (∀ s t, s < sh.S → t < sh.T →
        out[proj (vecSubsetShp sh) s t 0 d]? = vals[proj sh s t idx c]?) →
      Tab (vecSubsetShp sh) d out (fun s t _ => f s t idx) := fun hl h =>
    ⟨hl, fun s t v hb => by
      obtain rfl : v = 0 := Nat.lt_one_iff.mp (rV ▸ hb.2.2)
      exact (h s t (rS ▸ hb.1) (rT ▸ hb.2.1)).trans
        (hlk s t idx ⟨rS ▸ hb.1, rT ▸ hb.2.1, hidx⟩)⟩
  intro rs out
  -- the time classes are valid in the parent only when it has several time points; then the
  -- piece is 4-D
  have hvt : ∀ d, d = tsamples ∨ d = tslices → d ∈ validClasses sh → d ∈ validClasses rs := by
    rintro d (rfl | rfl) hd <;>
      exact (mem_validClasses rs _).2 (by
        rw [show rs.nd = 4 from rnd.trans
          (if_neg (((mem_validClasses sh _).1 hd).2.resolve_left (by rw [h5]; decide)))]
        exact ⟨by decide, Or.inl rfl⟩)
  cases c
  case gconst => exact absurd rfl hcg
  case gslices =>
    rw [show out = (gslices, (vals.drop (idx * (sh.S * sh.T))).take (sh.S * sh.T), true) by
      simp [out, copySampleK, globalSliceSubset]]
    refine ⟨gslices_valid _, tab ?_ fun s t hs ht => ?_⟩
    · rw [length_block _ _ idx sh.V (by rw [hlen]; simp [mult, hsl]) hidx]
      simp [mult, rsl, rS, rT, rV]
    · simp only [proj, rS, rT, Nat.mul_zero, Nat.add_zero]
      rw [getElem?_block _ _ _ _ (lt_mul_of' _ _ _ _ hs ht), Nat.mul_add, Nat.mul_assoc,
        Nat.add_assoc]
  case tsamples =>
    have hm : mult rs tsamples = sh.T := by simp [mult, rs, rT, rV]
    rw [show out = (tsamples, (vals.drop (idx * sh.T)).take sh.T, true) by
      simp [out, copySampleK, hm]]
    refine ⟨hvt _ (Or.inl rfl) hcv,
      tab ((length_block _ _ idx sh.V (by rw [hlen]; simp [mult]) hidx).trans hm.symm)
        fun s t hs ht => ?_⟩
    simp only [proj, rT, Nat.mul_zero, Nat.add_zero]
    exact getElem?_block _ _ _ _ ht
  case tslices =>
    rw [show out = (tslices, vals, false) by simp [out, copySampleK]]
    exact ⟨hvt _ (Or.inr rfl) hcv,
      tab (by rw [hlen]; simp [mult, hsl, rsl, rS]) fun s t hs ht => rfl⟩
  case vsamples =>
    have hi : idx < vals.length := by rw [hlen]; exact hidx
    rw [show out = (gconst, (vals[idx]?).toList, false) by simp [out, copySampleK, mult]]
    refine ⟨gconst_valid _, tab (by rw [List.getElem?_eq_getElem hi]; rfl) fun s t hs ht => ?_⟩
    simp only [proj]
    cases vals[idx]? <;> rfl
  case vslices =>
    rw [show out = (gslices, vals, false) by
      simp [out, copySampleK, preserving, gslices_valid]]
    refine ⟨gslices_valid _, tab (by rw [hlen]; simp [mult, hsl, rsl, rS, rT, rV])
      fun s t hs ht => ?_⟩
    simp [proj, rS]

/-! ### `get_subset`, with the `_simplify` calls -/

theorem nonSlice_of_not_perSlice {c : Cls} (h : ¬ perSlice c = true) :
    c = gconst ∨ c = tsamples ∨ c = vsamples := by
  cases c
  case gslices | tslices | vslices => exact absurd rfl h
  case gconst => exact Or.inl rfl
  case tsamples => exact Or.inr (Or.inl rfl)
  case vsamples => exact Or.inr (Or.inr rfl)

variable [DecidableEq α]

theorem applySimplify_nonSlice (null : α) (sh : Shp) {c : Cls} {vals : List α} {r : KeyState α}
    (hc : c = gconst ∨ c = tsamples ∨ c = vsamples)
    (h : applySimplify null sh (some (c, vals)) = .ok r) : nonSliceClass r := by
  rcases r with _ | ⟨d, out⟩
  · trivial
  · have := applySimplify_cls null sh h
    rcases hc with rfl | rfl | rfl <;> simp [constTests, repeatTests] at this
    · exact Or.inl this
    · rcases this with h | h | h <;> simp [nonSliceClass, h]
    · rcases this with h | h <;> simp [nonSliceClass, h]

/-- **C04 (slice axis, per key):** `get_subset` along the slice axis cannot fail on a valid key; the
    piece is valid for the one-slice shape, reads the parent at the fixed slice, and never stores
    the key per slice. -/
theorem subsetSlice_run (null : α) (sh : Shp) (hc : Consistent sh) {ks : KeyState α}
    {f : Nat → Nat → Nat → Option α} (hd : Den null sh ks f) (idx : Nat) (hidx : idx < sh.S) :
    ∃ p, subsetSliceK null sh ks idx = .ok p ∧
      Den null { sh with S := 1 } p (fun _ t v => f idx t v) ∧ nonSliceClass p := by
  rcases ks with _ | ⟨c, vals⟩
  · exact ⟨none, rfl, den_none.mpr fun s t v hb => den_none.mp hd idx t v ⟨hidx, hb.2⟩, trivial⟩
  · obtain ⟨hcv, ht⟩ := den_some.mp hd
    simp only [subsetSliceK]
    split
    · rename_i hps
      obtain ⟨hdv, hdc, ht'⟩ := copySlice_tab sh hc.toWFnd hc.hsl hps hcv ht idx hidx
      have hcr := hc.withS (k := 1) Nat.one_pos
      have hcs := (den_some (null := null)).mpr ⟨hdv, ht'⟩
      obtain ⟨p, hp⟩ := applySimplify_total null _ hcr.toWFnd.toWF hc.hsl _ hcs.1
      refine ⟨p, hp, applySimplify_den null _ hcr.toWFnd.toWF hc.hsl (consistent_base _ hcr) hcs
        (fun vals' e => ?_) hp, applySimplify_nonSlice null _ hdc hp⟩
      rw [(Prod.mk.inj (Option.some.inj e)).1] at hdc
      rcases hdc with h | h | h <;> cases h
    · rename_i hps
      have hcn := nonSlice_of_not_perSlice hps
      refine ⟨_, rfl, ?_, hcn⟩
      rcases hcn with rfl | rfl | rfl <;>
        exact den_some.mpr ⟨hcv, ht.1, fun s t v hb => ht.2 idx t v ⟨hidx, hb.2⟩⟩

theorem subsetSlice_den (null : α) (sh : Shp) (hc : Consistent sh) {ks p : KeyState α}
    {f : Nat → Nat → Nat → Option α} (hd : Den null sh ks f) (idx : Nat) (hidx : idx < sh.S)
    (h : subsetSliceK null sh ks idx = .ok p) :
    Den null { sh with S := 1 } p (fun _ t v => f idx t v) ∧ nonSliceClass p := by
  obtain ⟨_, hp, hd'⟩ := subsetSlice_run null sh hc hd idx hidx
  cases hp.symm.trans h; exact hd'

/-- `get_subset` along the time or the vector axis for one key, `rs` being the shape of the piece:
    a constant is kept; any other class goes through `_copy_sample` and, where that says so,
    `_simplify`. `subsetTimeK` and `subsetVecK` unfold to this. -/
def subsetSampleK (null : α) (isTime : Bool) (sh rs : Shp) (ks : KeyState α) (idx : Nat) :
    Except Err (KeyState α) :=
  match ks with
  | none => .ok none
  | some (c, vals) =>
    if c = gconst then .ok (some (c, vals))
    else
      let out := copySampleK sh rs isTime idx c vals
      if out.2.2 then applySimplify null rs (some (out.1, out.2.1)) else .ok (some (out.1, out.2.1))

theorem subsetSample_run (null : α) (isTime : Bool) {sh rs : Shp} (hcr : Consistent rs)
    (hbug : rs.hasTime = true → rs.V = 1) {ks : KeyState α} {f g : Nat → Nat → Nat → Option α}
    (hd : Den null sh ks f) (idx : Nat)
    (hpos : ∀ s t v, Box rs s t v → ∃ s' t' v', Box sh s' t' v' ∧ g s t v = f s' t' v')
    (hcopy : ∀ c vals, c ≠ gconst → c ∈ validClasses sh → Tab sh c vals f →
      let out := copySampleK sh rs isTime idx c vals
      out.1 ∈ validClasses rs ∧ Tab rs out.1 out.2.1 g) :
    ∃ p, subsetSampleK null isTime sh rs ks idx = .ok p ∧ Den null rs p g := by
  have wf := hcr.toWFnd.toWF
  rcases ks with _ | ⟨c, vals⟩
  · refine ⟨none, rfl, den_none.mpr fun s t v hb => ?_⟩
    obtain ⟨s', t', v', hb', e⟩ := hpos s t v hb
    exact e.trans (den_none.mp hd _ _ _ hb')
  · obtain ⟨hcv, ht⟩ := den_some.mp hd
    simp only [subsetSampleK]
    split
    · -- a constant reads the same in every shape
      rename_i hcg; subst hcg
      refine ⟨_, rfl, den_some.mpr ⟨gconst_valid _, ht.1, fun s t v hb => ?_⟩⟩
      obtain ⟨s', t', v', hb', e⟩ := hpos s t v hb
      exact (ht.2 _ _ _ hb').trans e.symm
    · rename_i hcg
      have hcs := (den_some (null := null)).mpr (hcopy c vals hcg hcv ht)
      split
      · obtain ⟨p, hp⟩ := applySimplify_total null rs wf hcr.hsl _ hcs.1
        exact ⟨p, hp, applySimplify_den null rs wf hcr.hsl (consistent_base rs hcr) hcs
          (fun _ _ => hbug) hp⟩
      · exact ⟨_, rfl, hcs⟩

/-- **C04 (time axis, 4-D or 5-D parent, per key):** `get_subset` along the time axis cannot fail
    on a valid key (4-D, or 5-D with ≥ 2 vector components); the piece is valid for the shape with
    one time point and reads the parent at the fixed time point -/
theorem subsetTime_run (null : α) (sh : Shp) (hc : Consistent sh) (h45 : sh.nd = 4 ∨ sh.nd = 5)
    (hV2 : sh.nd = 5 → 2 ≤ sh.V) {ks : KeyState α} {f : Nat → Nat → Nat → Option α}
    (hd : Den null sh ks f) (idx : Nat) (hidx : idx < sh.T) :
    ∃ p, subsetTimeK null sh ks idx = .ok p ∧
      Den null (timeSubsetShp sh) p (fun s _ v => f s idx v) := by
  have hcr := hc.timeSubset h45
  obtain ⟨rS, rT, rV, _⟩ := timeSubsetShp_dims sh
  exact subsetSample_run null true hcr (fun hT => absurd rT (hcr.htime.mp hT).2) hd idx
    (fun s t v hb => ⟨s, idx, v, ⟨rS ▸ hb.1, hidx, rV ▸ hb.2.2⟩, rfl⟩)
    fun c vals hcg hcv ht => copySampleTime_tab sh hc h45 hV2 hcg hcv ht idx hidx

theorem subsetTime_den (null : α) (sh : Shp) (hc : Consistent sh) (h45 : sh.nd = 4 ∨ sh.nd = 5)
    (hV2 : sh.nd = 5 → 2 ≤ sh.V) {ks p : KeyState α} {f : Nat → Nat → Nat → Option α}
    (hd : Den null sh ks f) (idx : Nat) (hidx : idx < sh.T)
    (h : subsetTimeK null sh ks idx = .ok p) :
    Den null (timeSubsetShp sh) p (fun s _ v => f s idx v) :=
  Den.of_run (subsetTime_run null sh hc h45 hV2 hd idx hidx) h

/-- **C04 (vector axis, 5-D parent, per key)** -/
theorem subsetVec_run (null : α) (sh : Shp) (hc : Consistent sh) (h5 : sh.nd = 5)
    {ks : KeyState α} {f : Nat → Nat → Nat → Option α} (hd : Den null sh ks f) (idx : Nat)
    (hidx : idx < sh.V) :
    ∃ p, subsetVecK null sh ks idx = .ok p ∧
      Den null (vecSubsetShp sh) p (fun s t _ => f s t idx) := by
  obtain ⟨rS, rT, rV, _⟩ := vecSubsetShp_dims sh
  exact subsetSample_run null false (hc.vecSubset h5) (fun _ => rV) hd idx
    (fun s t v hb => ⟨s, t, idx, ⟨rS ▸ hb.1, rT ▸ hb.2.1, hidx⟩, rfl⟩)
    fun c vals hcg hcv ht => copySampleVec_tab sh hc h5 hcg hcv ht idx hidx

theorem subsetVec_den (null : α) (sh : Shp) (hc : Consistent sh) (h5 : sh.nd = 5)
    {ks p : KeyState α} {f : Nat → Nat → Nat → Option α} (hd : Den null sh ks f) (idx : Nat)
    (hidx : idx < sh.V) (h : subsetVecK null sh ks idx = .ok p) :
    Den null (vecSubsetShp sh) p (fun s t _ => f s t idx) :=
  Den.of_run (subsetVec_run null sh hc h5 hd idx hidx) h

end subset
