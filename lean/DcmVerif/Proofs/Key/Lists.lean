import DcmVerif.Model.Key
import DcmVerif.Proofs.ListLemmas
/-! The list surgery of the per-key model (`stride`, `tile`, `repeatEach`, `interleave`), each described
by what `[i]?` reads and by its length; the period tests of `_simplify` as statements about indices. -/
set_option autoImplicit false

section lists
variable {α : Type}

theorem getElem?_strideAux (p : Nat) (hp : 0 < p) (l : List α) :
    ∀ k j, (strideAux p k l)[j]? = l[k + j * p]? := by
  induction l with
  | nil => intro k j; simp [strideAux]
  | cons x xs ih =>
    intro k j
    cases k with
    | zero =>
      cases j with
      | zero => simp [strideAux]
      | succ j =>
        simp only [strideAux, List.getElem?_cons_succ, ih, Nat.zero_add]
        rw [show (j + 1) * p = (p - 1 + j * p) + 1 by rw [Nat.succ_mul]; omega,
          List.getElem?_cons_succ]
    | succ k =>
      simp only [strideAux, ih]
      rw [show k + 1 + j * p = (k + j * p) + 1 by omega, List.getElem?_cons_succ]

theorem getElem?_stride (p : Nat) (hp : 0 < p) (l : List α) (j : Nat) :
    (stride p l)[j]? = l[j * p]? := by
  rw [stride, getElem?_strideAux p hp l 0 j, Nat.zero_add]

/-- the length of a stride is the least `j` with `l.length ≤ k + j * p` -/
theorem length_strideAux_le_iff (p : Nat) (hp : 0 < p) (l : List α) (k j : Nat) :
    (strideAux p k l).length ≤ j ↔ l.length ≤ k + j * p := by
  rw [← List.getElem?_eq_none_iff, getElem?_strideAux p hp, List.getElem?_eq_none_iff]

theorem length_stride_drop (S M idx : Nat) (hidx : idx < S) (vals : List α)
    (hlen : vals.length = S * M) : (stride S (vals.drop idx)).length = M := by
  have key (j : Nat) : (stride S (vals.drop idx)).length ≤ j ↔ M ≤ j := by
    rw [stride, length_strideAux_le_iff S (by omega), Nat.zero_add, List.length_drop, hlen]
    constructor
    · exact fun h => Nat.le_of_not_lt fun hlt => by have := block_le S j M hlt; omega
    · exact fun h => by have := Nat.mul_le_mul_left S h; rw [Nat.mul_comm S j] at this; omega
  exact Nat.le_antisymm ((key M).2 (Nat.le_refl _)) ((key _).1 (Nat.le_refl _))

theorem length_stride_exact (p M : Nat) (hp : 0 < p) (l : List α) (hl : l.length = p * M) :
    (stride p l).length = M := by
  simpa using length_stride_drop p M 0 hp l hl

theorem getElem?_stride_drop (S idx j : Nat) (hS : 0 < S) (vals : List α) :
    (stride S (vals.drop idx))[j]? = vals[idx + j * S]? := by
  rw [getElem?_stride S hS, List.getElem?_drop]

theorem length_tile (k : Nat) (l : List α) : (tile k l).length = k * l.length := by
  induction k with
  | zero => simp [tile]
  | succ k ih => simp [tile, ih, Nat.succ_mul, Nat.add_comm]

theorem getElem?_tile (k : Nat) (l : List α) (i : Nat) (h : i < k * l.length) :
    (tile k l)[i]? = l[i % l.length]? := by
  induction k generalizing i with
  | zero => simp at h
  | succ k ih =>
    simp only [tile]
    by_cases hi : i < l.length
    · rw [List.getElem?_append_left hi, Nat.mod_eq_of_lt hi]
    · have hge : l.length ≤ i := Nat.le_of_not_lt hi
      rw [List.getElem?_append_right hge, ih _ (by rw [Nat.succ_mul] at h; omega)]
      congr 1
      conv => rhs; rw [← Nat.sub_add_cancel hge]
      exact (Nat.add_mod_right _ _).symm

theorem getElem?_repeatEach (k : Nat) (l : List α) (i : Nat) (hk : 0 < k) :
    (repeatEach k l)[i]? = l[i / k]? := by
  induction l generalizing i with
  | nil => simp [repeatEach]
  | cons a l ih =>
    simp only [repeatEach, List.flatMap_cons] at *
    by_cases hi : i < k
    · rw [List.getElem?_append_left (by simpa using hi)]
      simp [Nat.div_eq_of_lt hi, hi]
    · have hge : k ≤ i := Nat.le_of_not_lt hi
      rw [List.getElem?_append_right (by simpa using hge), List.length_replicate, ih,
        show i / k = (i - k) / k + 1 by
          conv => lhs; rw [← Nat.sub_add_cancel hge]
          exact Nat.add_div_right _ hk]
      simp

theorem length_repeatEach (k : Nat) (l : List α) : (repeatEach k l).length = l.length * k := by
  induction l with
  | nil => simp [repeatEach]
  | cons a l ih =>
    simp only [repeatEach, List.flatMap_cons, List.length_append, List.length_replicate,
      List.length_cons] at *
    rw [ih, Nat.succ_mul]; omega

theorem interleave_eq (n m : Nat) : ∀ (vols : Nat) (a b : List α),
    interleave n m vols a b =
      (List.range vols).flatMap fun v => (a.drop (v * n)).take n ++ (b.drop (v * m)).take m := by
  intro vols
  induction vols with
  | zero => intro a b; rfl
  | succ vols ih =>
    intro a b
    rw [interleave, ih, List.range_succ_eq_map, List.flatMap_cons, List.flatMap_map]
    simp [Nat.succ_mul, Nat.add_comm]

theorem length_interleave (n m vols : Nat) (a b : List α) (ha : a.length = n * vols)
    (hb : b.length = m * vols) : (interleave n m vols a b).length = (n + m) * vols := by
  rw [interleave_eq, length_flatMap_range (n + m)]
  intro v hv
  rw [List.length_append, length_block a n v vols (by omega) hv, length_block b m v vols (by omega) hv]

theorem getElem?_interleave (n m vols : Nat) (a b : List α) (ha : a.length = n * vols)
    (hb : b.length = m * vols) (vol s : Nat) (hv : vol < vols) (hs : s < n + m) :
    (interleave n m vols a b)[s + (n + m) * vol]? =
      if s < n then a[s + n * vol]? else b[(s - n) + m * vol]? := by
  have hla := fun v hv => length_block a n v vols (Nat.le_of_eq ha.symm) hv
  have hlb := fun v hv => length_block b m v vols (Nat.le_of_eq hb.symm) hv
  rw [interleave_eq, getElem?_flatMap_range (n + m) _ vols
    (fun v hv => by rw [List.length_append, hla v hv, hlb v hv]) vol s hv hs]
  by_cases h : s < n
  · rw [if_pos h, List.getElem?_append_left (by rw [hla vol hv]; exact h), getElem?_block _ _ _ _ h]
  · rw [if_neg h, List.getElem?_append_right (by rw [hla vol hv]; omega), hla vol hv,
      getElem?_block _ _ _ _ (by omega)]

private theorem block_facts (p : Nat) (hp : 0 < p) (l : List α) (hdiv : l.length % p = 0) (i : Nat)
    (hi : i < l.length) :
    i / p < l.length / p ∧ i % p < p ∧ ((l.drop (i / p * p)).take p)[i % p]? = l[i]? := by
  have hlt : i % p < p := Nat.mod_lt _ hp
  refine ⟨Nat.div_lt_div_of_lt_of_dvd (Nat.dvd_of_mod_eq_zero hdiv) hi, hlt, ?_⟩
  rw [getElem?_block _ _ _ _ hlt, Nat.mod_add_div]

/-! ### the tests of `_simplify`, as statements about indices -/
variable [DecidableEq α]

theorem isConstantAll_iff (l : List α) :
    isConstantAll l = true ↔ ∀ i, i < l.length → l[i]? = l[0]? := by
  cases l with
  | nil => simp [isConstantAll]
  | cons x xs =>
    simp only [isConstantAll, List.all_eq_true, beq_iff_eq, List.getElem?_cons_zero]
    constructor
    · intro h i hi
      cases i with
      | zero => rfl
      | succ i =>
        have hi' : i < xs.length := by simpa using hi
        rw [List.getElem?_cons_succ, List.getElem?_eq_getElem hi', h _ (List.getElem_mem hi')]
    · intro h y hy
      obtain ⟨i, hi, rfl⟩ := List.getElem_of_mem hy
      simpa [List.getElem?_eq_getElem hi] using h (i + 1) (by simpa using hi)

theorem isConstantP_iff (p : Nat) (hp : 0 < p) (l : List α) (hdiv : l.length % p = 0) :
    isConstantP p l = true ↔ ∀ i, i < l.length → l[i]? = l[i / p * p]? := by
  simp only [isConstantP, List.all_eq_true, List.mem_range, beq_iff_eq]
  constructor
  · intro h i hi
    obtain ⟨hb, _, hget⟩ := block_facts p hp l hdiv i hi
    have hmem : l[i] ∈ (l.drop (i / p * p)).take p := by
      rw [List.mem_iff_getElem?]; exact ⟨i % p, by rw [hget, List.getElem?_eq_getElem hi]⟩
    rw [List.getElem?_eq_getElem hi]; exact h _ hb _ hmem
  · intro h b hb x hx
    obtain ⟨k, hk⟩ := List.mem_iff_getElem?.mp hx
    have hkp : k < p := by
      have := (List.getElem?_eq_some_iff.mp hk).1
      rw [List.length_take] at this; omega
    rw [getElem?_drop_take _ _ _ _ hkp] at hk
    have hd : (b * p + k) / p = b := by
      rw [Nat.mul_comm, Nat.mul_add_div hp, Nat.div_eq_of_lt hkp, Nat.add_zero]
    have := h _ (List.getElem?_eq_some_iff.mp hk).1
    rwa [hk, hd] at this

theorem isRepeatingP_iff (p : Nat) (hp : 0 < p) (l : List α) (hdiv : l.length % p = 0) :
    isRepeatingP p l = true ↔ ∀ i, i < l.length → l[i]? = l[i % p]? := by
  simp only [isRepeatingP, List.all_eq_true, List.mem_range, beq_iff_eq]
  constructor
  · intro h i hi
    obtain ⟨hb, hlt, hget⟩ := block_facts p hp l hdiv i hi
    rw [← hget, h _ hb, List.getElem?_take_of_lt hlt]
  · intro h b hb
    have hle : b * p + p ≤ l.length := Nat.le_trans (block_le p b _ hb) (Nat.mul_div_le _ _)
    apply List.ext_getElem?
    intro k
    by_cases hk : k < p
    · rw [getElem?_drop_take _ _ _ _ hk, List.getElem?_take_of_lt hk, h _ (by omega),
        Nat.mul_comm, Nat.mul_add_mod, Nat.mod_eq_of_lt hk]
    · rw [List.getElem?_eq_none (by rw [List.length_take]; omega),
        List.getElem?_eq_none (by rw [List.length_take]; omega)]

theorem isRepeatingP_self (l : List α) : isRepeatingP l.length l = true := by
  rcases Nat.eq_zero_or_pos l.length with h | h
  · simp [isRepeatingP, h]
  · exact (isRepeatingP_iff _ h l (Nat.mod_self _)).mpr fun i hi => by rw [Nat.mod_eq_of_lt hi]

end lists
