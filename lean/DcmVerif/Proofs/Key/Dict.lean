import DcmVerif.Model.Key
import DcmVerif.Proofs.ListLemmas
/-! Dictionary level (C13, C14): six ordered dictionaries and the read-out of one key. A per-key
update run over the dictionaries changes each key independently; the filter removes exactly the keys
it is told to. -/
set_option autoImplicit false

section dict
variable {α : Type} {κ : Type} [DecidableEq κ]

theorem Dict.get?_set_self (d : Dict κ α) (k : κ) (v : List α) : (d.set k v).get? k = some v := by
  induction d with
  | nil => simp [Dict.set, Dict.get?]
  | cons p ps ih =>
    obtain ⟨k', v'⟩ := p
    by_cases h : k' = k
    · simp [Dict.set, Dict.get?, h]
    · simp [Dict.set, Dict.get?, h, ih]

theorem Dict.get?_set_other (d : Dict κ α) (k k' : κ) (v : List α) (hne : k' ≠ k) :
    (d.set k v).get? k' = d.get? k' := by
  induction d with
  | nil => simp [Dict.set, Dict.get?]; exact fun e => absurd e.symm hne
  | cons p ps ih =>
    obtain ⟨k0, v0⟩ := p
    by_cases h : k0 = k
    · subst h
      have : ¬ k0 = k' := fun e => hne e.symm
      simp [Dict.set, Dict.get?, this]
    · by_cases h2 : k0 = k'
      · subst h2; simp [Dict.set, Dict.get?, h]
      · simp [Dict.set, Dict.get?, h, h2, ih]

theorem Dict.get?_del_self (d : Dict κ α) (k : κ) : (d.del k).get? k = none := by
  induction d with
  | nil => rfl
  | cons p ps ih =>
    obtain ⟨k0, v0⟩ := p
    by_cases h : k0 = k
    · simp [Dict.del, h, ih]
    · simp [Dict.del, Dict.get?, h, ih]

theorem Dict.get?_del_other (d : Dict κ α) (k k' : κ) (hne : k' ≠ k) :
    (d.del k).get? k' = d.get? k' := by
  induction d with
  | nil => rfl
  | cons p ps ih =>
    obtain ⟨k0, v0⟩ := p
    by_cases h : k0 = k
    · subst h
      have : ¬ k0 = k' := fun e => hne e.symm
      simp [Dict.del, Dict.get?, this, ih]
    · by_cases h2 : k0 = k'
      · subst h2; simp [Dict.del, Dict.get?, h]
      · simp [Dict.del, Dict.get?, h, h2, ih]

theorem Ext.key_putKey_other (e : Ext κ α) (k k' : κ) (ks : KeyState α) (hne : k' ≠ k) :
    (e.putKey k ks).key k' = e.key k' := by
  unfold Ext.key Ext.putKey
  simp only
  congr 1
  funext c
  cases ks with
  | none => simp [Dict.get?_del_other _ _ _ hne]
  | some pr =>
    obtain ⟨c', v⟩ := pr
    by_cases hc : c = c'
    · simp [hc, Dict.get?_set_other _ _ _ _ hne, Dict.get?_del_other _ _ _ hne]
    · simp [hc, Dict.get?_del_other _ _ _ hne]

theorem Ext.key_putKey_self (e : Ext κ α) (k : κ) (ks : KeyState α)
    (hv : ∀ c v, ks = some (c, v) → c ∈ validClasses e.sh) :
    (e.putKey k ks).key k = ks := by
  unfold Ext.key Ext.putKey
  simp only
  cases ks with
  | none =>
    simp only [Dict.get?_del_self, Option.map_none]
    exact List.findSome?_eq_none_iff.2 fun _ _ => rfl
  | some pr =>
    obtain ⟨c', v⟩ := pr
    have hmem := hv c' v rfl
    have hf : ∀ c, (((if c = c' then ((e.dict c).del k).set k v else (e.dict c).del k).get? k).map
        fun v => (c, v)) = if c = c' then some (c', v) else none := by
      intro c
      by_cases hc : c = c'
      · simp [hc, Dict.get?_set_self]
      · simp [hc, Dict.get?_del_self]
    simp only [hf]
    generalize validClasses e.sh = l at hmem
    induction l with
    | nil => cases hmem
    | cons c cs ih =>
      by_cases hc : c = c'
      · simp [hc]
      · simp [hc, ih ((List.mem_cons.mp hmem).resolve_left (Ne.symm hc))]

/-- **Keys are independent (C13):** running a per-key update over a duplicate-free list of keys
    changes exactly those keys, each by its own update applied to its own old state. -/
theorem Ext.foldl_putKey_key (f : κ → KeyState α → KeyState α) (ks : List κ) (hnd : ks.Nodup) :
    ∀ (e : Ext κ α),
      (∀ k st c v, f k st = some (c, v) → c ∈ validClasses e.sh) →
      ∀ k, ((ks.foldl (fun e k => e.putKey k (f k (e.key k))) e).key k)
        = if k ∈ ks then f k (e.key k) else e.key k := by
  induction ks with
  | nil => intro e _ k; simp
  | cons k0 rest ih =>
    intro e hv k
    have hnd' : rest.Nodup := (List.nodup_cons.mp hnd).2
    have hk0 : k0 ∉ rest := (List.nodup_cons.mp hnd).1
    simp only [List.foldl_cons]
    have hsh : (e.putKey k0 (f k0 (e.key k0))).sh = e.sh := rfl
    rw [ih hnd' (e.putKey k0 (f k0 (e.key k0))) (by rw [hsh]; exact hv) k]
    by_cases hk : k = k0
    · subst hk
      simp only [hk0, if_false, List.mem_cons, true_or, if_true]
      exact Ext.key_putKey_self e k _ (fun c v h => hv k _ c v h)
    · have hother := Ext.key_putKey_other e k0 k (f k0 (e.key k0)) hk
      by_cases hkr : k ∈ rest
      · simp [hkr, hother]
      · simp [hkr, hk, hother]

/-- **C13 for merges:** what the result says about a key depends only on that key's entries in
    the two inputs (and on the shape), not on any other key. -/
theorem Ext.insertWith_key (step : KeyState α → KeyState α → KeyState α) (self other : Ext κ α)
    (hstep : ∀ a b c v, step a b = some (c, v) → c ∈ validClasses self.sh) (k : κ) :
    (Ext.insertWith step self other).key k =
      if k ∈ (other.keys ++ self.keys).eraseDups then step (self.key k) (other.key k)
      else self.key k := by
  unfold Ext.insertWith
  exact Ext.foldl_putKey_key (fun k st => step st (other.key k)) _ (eraseDups_nodup _) self
    (fun k st c v h => hstep st (other.key k) c v h) k

/-! ### `filter_meta` (C14) -/

theorem Dict.get?_filterKeys (d : Dict κ α) (drop : κ → Bool) (k : κ) :
    (d.filterKeys drop).get? k = if drop k then none else d.get? k := by
  induction d with
  | nil => simp [Dict.filterKeys, Dict.get?]
  | cons p ps ih =>
    obtain ⟨k0, v0⟩ := p
    unfold Dict.filterKeys at ih ⊢
    rw [List.filter_cons]
    by_cases hk : k0 = k
    · subst hk; cases hd : drop k0 <;> simp [Dict.get?, hd, ih]
    · cases hd : drop k0 <;> simp [Dict.get?, hk, ih]

/-- **C14:** the filter removes exactly the keys it is told to — whatever their classification —
    and leaves every other key as it was. -/
theorem Ext.key_filterMeta (e : Ext κ α) (drop : κ → Bool) (k : κ) :
    (e.filterMeta drop).key k = if drop k then none else e.key k := by
  unfold Ext.key Ext.filterMeta
  simp only [Dict.get?_filterKeys]
  by_cases hd : drop k = true
  · simp only [hd, if_true, Option.map_none]
    exact List.findSome?_eq_none_iff.2 fun _ _ => rfl
  · simp [hd]

omit [DecidableEq κ] in
theorem regexFilter_iff {ρ : Type} (mtch : ρ → κ → Bool) (excl incl : List ρ) (k : κ) :
    regexFilter mtch excl incl k = true ↔
      (∃ e, e ∈ excl ∧ mtch e k = true) ∧ ¬ (∃ i, i ∈ incl ∧ mtch i k = true) := by
  simp [regexFilter, List.any_eq_true]

omit [DecidableEq κ] in
theorem regexFilter_append {ρ : Type} (mtch : ρ → κ → Bool) (e1 e2 i1 i2 : List ρ) (k : κ) :
    regexFilter mtch (e1 ++ e2) (i1 ++ i2) k =
      ((regexFilter mtch e1 [] k || regexFilter mtch e2 [] k) &&
        !(i1.any (mtch · k) || i2.any (mtch · k))) := by
  simp [regexFilter, List.any_append]
end dict
