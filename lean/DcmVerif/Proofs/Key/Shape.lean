import DcmVerif.Model.Key
/-! Which classifications a shape allows (`validClasses`), which dictionaries it has (`basePresent`),
and when the two agree. -/
set_option autoImplicit false
open Cls

theorem mem_validClasses (sh : Shp) (c : Cls) : c ∈ validClasses sh ↔
    match c with
    | gconst | gslices => True
    | tsamples | tslices => sh.nd ≠ 3 ∧ (sh.nd = 4 ∨ sh.T ≠ 1)
    | vsamples | vslices => sh.nd ≠ 3 ∧ sh.nd ≠ 4 := by
  unfold validClasses
  split
  · cases c <;> simp [*]
  split
  · cases c <;> simp [*]
  split <;> cases c <;> simp [*]

theorem gslices_valid (sh : Shp) : gslices ∈ validClasses sh := (mem_validClasses sh _).2 trivial

theorem gconst_valid (sh : Shp) : gconst ∈ validClasses sh := (mem_validClasses sh _).2 trivial

theorem base_valid {sh : Shp} (ht : sh.hasTime = true → sh.nd ≠ 3 ∧ (sh.nd = 4 ∨ sh.T ≠ 1))
    (hv : sh.hasVector = true → sh.nd ≠ 3 ∧ sh.nd ≠ 4) (d : Cls) (hd : basePresent sh d = true) :
    d ∈ validClasses sh := by
  rw [mem_validClasses]
  cases d
  case gconst | gslices => trivial
  case tsamples | tslices => exact ht hd
  case vsamples | vslices => exact hv hd

theorem consistent_base (sh : Shp) (hc : Consistent sh) : ∀ d, basePresent sh d = true →
    d ∈ validClasses sh :=
  base_valid (fun h => by have := hc.htime.mp h; omega) (fun h => by have := hc.hvec.mp h; omega)

theorem valid_base (sh : Shp) (hc : Consistent sh) (c : Cls) (h : c ∈ validClasses sh) :
    basePresent sh c = true := by
  have h := (mem_validClasses sh c).1 h
  have ht : sh.nd ≠ 3 ∧ (sh.nd = 4 ∨ sh.T ≠ 1) → sh.hasTime = true := fun h => by
    refine hc.htime.mpr ?_
    rcases hc.hnd with h3 | h4 | h5
    · exact absurd h3 h.1
    · exact ⟨Nat.le_of_eq h4.symm, hc.trimmed4 h4⟩
    · exact ⟨by omega, h.2.resolve_left (by omega)⟩
  have hv : sh.nd ≠ 3 ∧ sh.nd ≠ 4 → sh.hasVector = true := fun h =>
    hc.hvec.mpr ((hc.hnd.resolve_left h.1).resolve_left h.2)
  cases c
  case gconst | gslices => rfl
  case tsamples | tslices => exact ht h
  case vsamples | vslices => exact hv h

theorem base_valid4 {sh : Shp} (nd4 : sh.nd = 4) (hvec : sh.hasVector = false) : ∀ d,
    basePresent sh d = true → d ∈ validClasses sh :=
  base_valid (fun _ => by omega) (fun h => by rw [hvec] at h; cases h)

theorem base_valid5 {sh : Shp} (nd5 : sh.nd = 5) (htime : sh.hasTime = true → sh.T ≠ 1) : ∀ d,
    basePresent sh d = true → d ∈ validClasses sh :=
  base_valid (fun h => by have := htime h; omega) (fun _ => by omega)

theorem Consistent.withS {sh : Shp} (hc : Consistent sh) {k : Nat} (hk : 0 < k) :
    Consistent { sh with S := k } :=
  { hS := hk, hT := hc.hT, hV := hc.hV, hnd := hc.hnd, h3 := hc.h3, h4 := hc.h4, hsl := hc.hsl,
    htime := hc.htime, hvec := hc.hvec, trimmed4 := hc.trimmed4 }
