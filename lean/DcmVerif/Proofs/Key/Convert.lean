import DcmVerif.Proofs.Key.Minimal
/-! C01 per key: the three-level merge of `to_nifti(embed_meta=True)` — files into volumes, volumes
into vector components, components into the result — cannot fail on a complete stack and is
lossless: each level is an instance of the merge theorems, with literal shapes. -/
set_option autoImplicit false

section convert
variable {α : Type} [DecidableEq α]

omit [DecidableEq α] in
theorem fileKS_valid (x : Option α) : ValidK (⟨3, 1, 1, 1, true, false, false⟩ : Shp) (fileKS x) := by
  cases x with
  | none => trivial
  | some a => exact ⟨by simp [validClasses], rfl⟩

theorem consistent3 : Consistent (⟨3, 1, 1, 1, true, false, false⟩ : Shp) :=
  { hS := by decide, hT := by decide, hV := by decide, hnd := Or.inl rfl,
    h3 := fun _ => ⟨rfl, rfl⟩, h4 := fun h => (by cases h), hsl := rfl,
    htime := (by simp), hvec := (by simp), trimmed4 := fun h => (by cases h) }

/-- level 1: the files of one volume, merged along the slice axis -/
theorem convert_vol (null : α) (S : Nat) (hS : 0 < S) (val : Nat → Option α) :
    ∃ r, mergeSliceK null ⟨3, 1, 1, 1, true, false, false⟩
        ((List.range S).map fun s => fileKS (val s)) = .ok r ∧
      Den null ⟨3, S, 1, 1, true, false, false⟩ r (fun s _ _ => some ((val s).getD null)) := by
  obtain ⟨r, hr, hd⟩ := mergeSlice_run null ⟨3, 1, 1, 1, true, false, false⟩ consistent3
    ((List.range S).map fun s => fileKS (val s)) (map_range_ne_nil hS _)
    (List.forall_mem_map.2 fun s _ => fileKS_valid _)
  rw [List.length_map, List.length_range] at hd
  refine ⟨r, hr, hd.congr fun s t v hb => ?_⟩
  simp only [getD_map_range hb.1]
  cases val s <;> rfl

/-- level 2: the volumes of one vector component, merged along the time axis -/
theorem convert_time (null : α) (S T : Nat) (hS : 0 < S) (hT : 0 < T) (vol : Nat → KeyState α)
    (F : Nat → Nat → Option α)
    (hvol : ∀ t, t < T → Den null ⟨3, S, 1, 1, true, false, false⟩ (vol t) (fun s _ _ => F s t)) :
    ∃ r, mergeTimeK null ⟨4, S, 1, 1, true, true, false⟩ ⟨3, S, 1, 1, true, false, false⟩
        ((List.range T).map vol) = .ok r ∧
      Den null ⟨4, S, T, 1, true, true, false⟩ r (fun s t _ => F s t) := by
  obtain ⟨r, hr, hd⟩ := mergeTime_run null ⟨4, S, 1, 1, true, true, false⟩
    ⟨3, S, 1, 1, true, false, false⟩ (timeSetup_of hS rfl rfl rfl rfl rfl rfl rfl rfl) rfl
    ((List.range T).map vol) (map_range_ne_nil hT _)
    (List.forall_mem_map.2 fun t ht => (hvol t (List.mem_range.1 ht)).1)
  rw [List.length_map, List.length_range] at hd
  refine ⟨r, hr, hd.congr fun s t v hb => ?_⟩
  simp only [getD_map_range hb.2.1]
  exact (hvol t hb.2.1).2 s 0 v ⟨hb.1, Nat.one_pos, hb.2.2⟩

/-- level 3: the vector components, merged along the vector axis; `osh` is the shape of a
    component — 4-D, or 3-D when there is a single time point -/
theorem convert_vec (null : α) (sh1 osh : Shp) (V : Nat) (hV : 0 < V)
    (hs : ∀ k, 0 < k → VecSetup { sh1 with V := k } osh) (htime : sh1.hasTime = true → sh1.T ≠ 1)
    (vec : Nat → KeyState α) (G : Nat → Nat → Nat → Option α)
    (hvec : ∀ v, v < V → Den null osh (vec v) (fun s t _ => G s t v)) :
    ∃ r, mergeVecK null sh1 osh ((List.range V).map vec) = .ok r ∧
      Den null { sh1 with V := V } r G := by
  obtain ⟨r, hr, hd⟩ := mergeVec_run null sh1 osh hs htime ((List.range V).map vec)
    (map_range_ne_nil hV _) (List.forall_mem_map.2 fun v hv => (hvec v (List.mem_range.1 hv)).1)
  rw [List.length_map, List.length_range] at hd
  refine ⟨r, hr, hd.congr fun s t v hb => ?_⟩
  simp only [getD_map_range hb.2.2]
  have hsV := hs V hV
  exact (hvec v hb.2.2).2 s t 0 ⟨hsV.oS ▸ hb.1, hsV.oT ▸ hb.2.1, by rw [hsV.oV]; exact Nat.one_pos⟩

/-- level 3 for a stack with several time points: 4-D components, 5-D result -/
theorem vecSetup5 {S T : Nat} (hS : 0 < S) (hT : 2 ≤ T) : ∀ k, 0 < k →
    VecSetup { (⟨5, S, T, 1, true, true, true⟩ : Shp) with V := k } ⟨4, S, T, 1, true, true, false⟩ :=
  vecSetup_of hS (Nat.zero_lt_of_lt hT) rfl rfl rfl rfl rfl rfl (Or.inr ⟨rfl, Nat.ne_of_gt hT⟩)

/-- the three levels composed: the summary is valid for the shape of the image and reads what the
    files carried -/
theorem convert_den (null : α) (S T V : Nat) (hS : 0 < S) (hT : 2 ≤ T) (hV : 0 < V)
    (val : Nat → Nat → Nat → Option α)
    (vol : Nat → Nat → KeyState α) (vec : Nat → KeyState α) (r : KeyState α)
    (hvol : ∀ t v, t < T → v < V →
      mergeSliceK null ⟨3, 1, 1, 1, true, false, false⟩
        ((List.range S).map fun s => fileKS (val s t v)) = .ok (vol t v))
    (hvec : ∀ v, v < V →
      mergeTimeK null ⟨4, S, 1, 1, true, true, false⟩ ⟨3, S, 1, 1, true, false, false⟩
        ((List.range T).map fun t => vol t v) = .ok (vec v))
    (hfin : mergeVecK null ⟨5, S, T, 1, true, true, true⟩ ⟨4, S, T, 1, true, true, false⟩
        ((List.range V).map vec) = .ok r) :
    Den null ⟨5, S, T, V, true, true, true⟩ r (fun s t v => some ((val s t v).getD null)) :=
  Den.of_run (convert_vec null ⟨5, S, T, 1, true, true, true⟩ ⟨4, S, T, 1, true, true, false⟩ V hV
    (vecSetup5 hS hT) (fun _ => Nat.ne_of_gt hT) vec _
    fun v hv => Den.of_run (convert_time null S T hS (Nat.zero_lt_of_lt hT) (fun t => vol t v) _
      fun t ht => Den.of_run (convert_vol null S hS fun s => val s t v) (hvol t v ht hv)) (hvec v hv)) hfin

/-- **C01 (metadata, one key, 5-D result):** if the per-volume, per-vector and final merges of
    `to_nifti` succeed, then looking the key up at slice `s`, time `t`, vector `v` returns exactly
    what file `(s,t,v)` carried — `null` if that file lacked the key. -/
theorem convert_lookup_key (null : α) (S T V : Nat) (hS : 0 < S) (hT : 2 ≤ T) (hV : 0 < V)
    (val : Nat → Nat → Nat → Option α)
    (vol : Nat → Nat → KeyState α) (vec : Nat → KeyState α) (r : KeyState α)
    (hvol : ∀ t v, t < T → v < V →
      mergeSliceK null ⟨3, 1, 1, 1, true, false, false⟩
        ((List.range S).map fun s => fileKS (val s t v)) = .ok (vol t v))
    (hvec : ∀ v, v < V →
      mergeTimeK null ⟨4, S, 1, 1, true, true, false⟩ ⟨3, S, 1, 1, true, false, false⟩
        ((List.range T).map fun t => vol t v) = .ok (vec v))
    (hfin : mergeVecK null ⟨5, S, T, 1, true, true, true⟩ ⟨4, S, T, 1, true, true, false⟩
        ((List.range V).map vec) = .ok r) :
    ∀ s t v, s < S → t < T → v < V →
      lookupKS null ⟨5, S, T, V, true, true, true⟩ r s t v = some ((val s t v).getD null) :=
  fun s t v hs ht hv =>
    (convert_den null S T V hS hT hV val vol vec r hvol hvec hfin).2 s t v ⟨hs, ht, hv⟩

/-- **C06 for conversion (5-D result):** every key of the embedded extension sits at its simplest
    classification. -/
theorem convert_canonical_key (null : α) (S T V : Nat) (hS : 0 < S) (hT : 2 ≤ T) (hV : 2 ≤ V)
    (val : Nat → Nat → Nat → Option α)
    (vol : Nat → Nat → KeyState α) (vec : Nat → KeyState α) (r : KeyState α)
    (hvol : ∀ t v, t < T → v < V →
      mergeSliceK null ⟨3, 1, 1, 1, true, false, false⟩
        ((List.range S).map fun s => fileKS (val s t v)) = .ok (vol t v))
    (hvec : ∀ v, v < V →
      mergeTimeK null ⟨4, S, 1, 1, true, true, false⟩ ⟨3, S, 1, 1, true, false, false⟩
        ((List.range T).map fun t => vol t v) = .ok (vec v))
    (hfin : mergeVecK null ⟨5, S, T, 1, true, true, true⟩ ⟨4, S, T, 1, true, true, false⟩
        ((List.range V).map vec) = .ok r) :
    ∀ c vals, r = some (c, vals) →
      ∀ e, basePresent ⟨5, S, T, V, true, true, true⟩ e = true → rank e < rank c →
        ¬ RepOK ⟨5, S, T, V, true, true, true⟩
            (fun s t v => lookupKS null ⟨5, S, T, V, true, true, true⟩ r s t v) e := by
  have := mergeVec_minimal null ⟨5, S, T, 1, true, true, true⟩ ⟨4, S, T, 1, true, true, false⟩
    (vecSetup5 hS hT) (fun _ => Nat.ne_of_gt hT) _ (by simpa using hV)
    (fun b hb => by
      obtain ⟨v, hv, rfl⟩ := List.mem_map.mp hb
      have hv := List.mem_range.mp hv
      exact (Den.of_run (convert_time null S T hS (Nat.zero_lt_of_lt hT) (fun t => vol t v) _
        fun t ht => Den.of_run (convert_vol null S hS fun s => val s t v) (hvol t v ht hv))
        (hvec v hv)).1) hfin
  simp only [List.length_map, List.length_range] at this
  exact this
end convert
