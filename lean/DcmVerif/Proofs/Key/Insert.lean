import DcmVerif.Proofs.Key.Simplify
/-! `_change_class`, the reclassification loop of `_insert`, `_insert_slice` and `_insert_sample` on
one key (the two are one function, `insertK`): the result denotes the old function on the positions
held so far and the other input's function on the new position. Then one step of `from_sequence` on one key
(`stepWith`: the three step functions of the model are instances of it by `rfl`). Namespace `Total`
holds the class-level function `reclassC` of the first loop with its equations, and that none of
these can fail. -/
set_option autoImplicit false
open Cls

section reclassify
variable {α : Type}

/-! ### `_change_class` and the first loop of `_insert` -/

theorem changeClass_tab (null : α) (sh : Shp) (wf : WF sh) (hsl : sh.hasSlice = true)
    {ks r : KeyState α} {f : Nat → Nat → Nat → Option α} (hd : Den null sh ks f) {new : Cls}
    (hnew : new ∈ validClasses sh ∨ mult sh new = 1) (h : changeClassK null sh ks new = .ok r) :
    ∃ v, r = some (new, v) ∧ Tab sh new v f := by
  rw [changeClassK_eq] at h
  cases hg : getChangedK null sh ks new with
  | error e => rw [hg] at h; cases h
  | ok v =>
    rw [hg] at h; injection h with h
    exact ⟨v, h.symm, getChanged_tab null sh wf hsl hd hnew hg⟩

namespace Total

def Reach (cb : Option Cls) (c : Cls) : Prop := cb = some c ∨ c ∈ preserving cb
instance (cb : Option Cls) (c : Cls) : Decidable (Reach cb c) := by unfold Reach; infer_instance

theorem getChangedK_ok (null : α) (sh : Shp) (ks : KeyState α) (new : Cls)
    (h : Reach (ks.map (·.1)) new) : ∃ v, getChangedK null sh ks new = .ok v := by
  unfold getChangedK
  by_cases h1 : ks.map (·.1) = some new
  · simp [h1]
  · simp [h1, h.resolve_left h1]

theorem changeClassK_ok (null : α) (sh : Shp) (ks : KeyState α) (new : Cls)
    (h : Reach (ks.map (·.1)) new) :
    ∃ v, changeClassK null sh ks new = .ok (some (new, v)) := by
  obtain ⟨v, hv⟩ := getChangedK_ok null sh ks new h
  exact ⟨v, by rw [changeClassK_eq, hv]; rfl⟩

theorem changeClassK_class {null : α} {sh : Shp} {ks r : KeyState α} {d : Cls}
    (h : changeClassK null sh ks d = .ok r) : ∃ v, r = some (d, v) := by
  rw [changeClassK_eq] at h
  cases hg : getChangedK null sh ks d with
  | error e => rw [hg] at h; cases h
  | ok v => rw [hg] at h; injection h with h; exact ⟨v, h.symm⟩

theorem widen_both_ok (null : α) (sh osh : Shp) (self b : KeyState α) (d : Cls)
    (hs : Reach (self.map (·.1)) d) (hb : Reach (b.map (·.1)) d) :
    ∃ lv' ov', changeClassK null sh self d = .ok (some (d, lv')) ∧
      getChangedK null osh b d = .ok ov' := by
  obtain ⟨lv', h1⟩ := changeClassK_ok null sh self d hs
  obtain ⟨ov', h2⟩ := getChangedK_ok null osh b d hb
  exact ⟨lv', ov', h1, h2⟩

/-- class-level content of `reclassifyK`: the class the key ends in, or `none` for the error. Of the
    shape it takes only the two flags it reads, so that `reclassGood_all` can enumerate its inputs. -/
def reclassC (hasTime hasVector : Bool) (lc : Option Cls) (oc : Cls) : Option (Option Cls) :=
  if lc = some oc then some lc
  else if oc ∈ preserving lc then some (some oc)
  else if lc.any (· ∈ preserving (some oc)) then some lc
  else
    match (preserving lc).find? (fun d =>
        (match d with
          | gconst | gslices => true
          | tsamples | tslices => hasTime
          | vsamples | vslices => hasVector) && decide (d ∈ preserving (some oc))) with
    | none => none
    | some d => some (some d)

theorem reclassC_shp (sh : Shp) (lc : Option Cls) (oc : Cls) :
    reclassC sh.hasTime sh.hasVector lc oc =
      if lc = some oc then some lc
      else if oc ∈ preserving lc then some (some oc)
      else if lc.any (· ∈ preserving (some oc)) then some lc
      else ((preserving lc).find? fun d =>
        basePresent sh d && decide (d ∈ preserving (some oc))).map some := by
  unfold reclassC
  repeat' apply ite_congr rfl (fun _ => rfl) fun _ => ?_
  have key : ∀ (P Q : Cls → Bool), P = Q → ∀ l : List Cls,
      (match l.find? P with | none => none | some d => some (some d)) = (l.find? Q).map some := by
    rintro P _ rfl l
    cases l.find? P <;> rfl
  exact key _ _ (funext fun d => by cases d <;> rfl) _

/-- **`reclassifyK` is `_change_class` to the class `reclassC` names** (which leaves a key alone
    that is there already), and fails when `reclassC` finds none -/
theorem reclassifyK_eq (null : α) (sh : Shp) (self : KeyState α) (oc : Cls) :
    reclassifyK null sh self oc =
      match reclassC sh.hasTime sh.hasVector (self.map (·.1)) oc with
      | some (some d) => changeClassK null sh self d
      | _ => .error .other := by
  rw [reclassC_shp]
  unfold reclassifyK
  by_cases h1 : self.map (·.1) = some oc
  · rw [if_pos h1, if_pos h1, h1]
    simp only [changeClassK, h1, if_true]
  rw [if_neg h1, if_neg h1]
  by_cases h2 : oc ∈ preserving (self.map (·.1))
  · rw [if_pos h2, if_pos h2]
  rw [if_neg h2, if_neg h2]
  by_cases h3 : (self.map (·.1)).any (· ∈ preserving (some oc)) = true
  · rw [if_pos h3, if_pos h3]
    match self, h3 with
    | some (c, lv), _ => simp [changeClassK]
  rw [if_neg h3, if_neg h3]
  cases (preserving (self.map (·.1))).find? _ <;> rfl

theorem reclassC_cases {sh : Shp} {lc : Option Cls} {oc d : Cls}
    (h : reclassC sh.hasTime sh.hasVector lc oc = some (some d)) :
    lc = some d ∨ ((d = oc ∨ basePresent sh d = true) ∧ d ∈ preserving lc) := by
  rw [reclassC_shp] at h
  split at h
  · exact Or.inl (by injection h)
  split at h
  · rename_i h2; injection h with h; injection h with h; subst h; exact Or.inr ⟨Or.inl rfl, h2⟩
  split at h
  · exact Or.inl (by injection h)
  · obtain ⟨d', hf, hd'⟩ := Option.map_eq_some_iff.mp h
    injection hd' with hd'; subst hd'
    have hd := List.find?_some hf
    rw [Bool.and_eq_true] at hd
    exact Or.inr ⟨Or.inr hd.1, List.mem_of_find?_eq_some hf⟩

/-- the conclusion of `reclassC_total` as a Boolean, checked below on all 2 × 2 × 7 × 7 inputs -/
def reclassGood (ht hv : Bool) (lc cb : Option Cls) : Bool :=
  match reclassC ht hv lc (cb.getD gconst) with
  | some (some c) => decide (Reach cb c) && (decide (lc = some c) || decide (Reach lc c))
  | _ => false

theorem reclassGood_all (ht hv : Bool) (lc cb : Option Cls) : reclassGood ht hv lc cb = true := by
  cases ht <;> cases hv <;> rcases lc with _ | lc <;> rcases cb with _ | cb <;> (try cases lc) <;>
    (try cases cb) <;> decide

/-- whatever classes meet, the first loop of `_insert` finds a common class -/
theorem reclassC_total (ht hv : Bool) (lc cb : Option Cls) :
    ∃ c, reclassC ht hv lc (cb.getD gconst) = some (some c) ∧ Reach cb c ∧
      (lc = some c ∨ Reach lc c) := by
  have h := reclassGood_all ht hv lc cb
  unfold reclassGood at h
  split at h
  · rename_i c hc
    simp only [Bool.and_eq_true, Bool.or_eq_true, decide_eq_true_eq] at h
    exact ⟨c, hc, h.1, h.2⟩
  · cases h

theorem otherClass_eq (b : KeyState α) : otherClass b = (b.map (·.1)).getD gconst := by
  cases b <;> rfl

/-- the first loop of `_insert` moves a key into class `X` only if the other input has it there or,
    as a constant, could be widened to it -/
theorem reclassC_keeps {ht hv : Bool} {lc : Option Cls} {oc X : Cls} (hne : oc ≠ X)
    (hX : X ∈ preserving (some oc) → oc = gconst)
    (h : reclassC ht hv lc oc = some (some X)) : lc = some X := by
  unfold reclassC at h
  by_cases h1 : lc = some oc
  · rw [if_pos h1] at h; injection h
  rw [if_neg h1] at h
  by_cases h2 : oc ∈ preserving lc
  · rw [if_pos h2] at h; injection h with h; injection h with h; exact absurd h hne
  rw [if_neg h2] at h
  by_cases h3 : lc.any (· ∈ preserving (some oc)) = true
  · rw [if_pos h3] at h; injection h
  rw [if_neg h3] at h
  split at h
  · cases h
  · rename_i d hf
    injection h with h; injection h with h; subst h
    have hd := List.find?_some hf
    simp only [Bool.and_eq_true, decide_eq_true_eq] at hd
    -- `oc` is a constant: an absent `lc` is caught by the second test
    obtain rfl := hX hd.2
    match lc with
    | none => exact absurd (by decide) h2
    | some c0 =>
      -- a constant `lc` is caught by the first test, any other class by the third
      cases c0 <;> first | exact absurd rfl h1 | exact absurd (by decide) h3

theorem reclassify_keeps (null : α) (sh : Shp) {self a1 : KeyState α} {oc X : Cls} {lv : List α}
    (hne : oc ≠ X) (hX : X ∈ preserving (some oc) → oc = gconst)
    (h : reclassifyK null sh self oc = .ok a1) (ha : a1 = some (X, lv)) : a1 = self := by
  rw [reclassifyK_eq] at h
  split at h
  · rename_i d hrc
    -- the class changed to is `X`, which `reclassC` reaches only from `X`
    obtain ⟨v, rfl⟩ := changeClassK_class h
    obtain rfl : d = X := by injection ha with ha; injection ha
    rw [changeClassK, if_pos (reclassC_keeps hne hX hrc)] at h
    injection h with h; exact h.symm
  · cases h

end Total

/-- first loop of `_insert`: the key ends up present, valid, reading what it read -/
theorem reclassify_den (null : α) (sh : Shp) (wf : WF sh) (hsl : sh.hasSlice = true)
    (hbase : ∀ d, basePresent sh d = true → d ∈ validClasses sh)
    {self self' : KeyState α} {f : Nat → Nat → Nat → Option α} (hd : Den null sh self f) {oc : Cls}
    (hoc : oc ∈ validClasses sh) (h : reclassifyK null sh self oc = .ok self') :
    (∃ c lv, self' = some (c, lv)) ∧ Den null sh self' f := by
  rw [Total.reclassifyK_eq] at h
  split at h
  · rename_i d hrc
    have hdv : d ∈ validClasses sh := by
      rcases Total.reclassC_cases hrc with hl | ⟨hdv, _⟩
      · match self, hl with
        | some (c, lv), hl => injection hl with hl; exact hl ▸ (den_some.mp hd).1
      · exact hdv.elim (fun e => e ▸ hoc) (hbase d)
    obtain ⟨v, rfl, ht⟩ := changeClass_tab null sh wf hsl hd (Or.inl hdv) h
    exact ⟨⟨d, v, rfl⟩, den_some.mpr ⟨hdv, ht⟩⟩
  · cases h

/-- the step both insert functions fall back on: both sides widened to a class `d`, the two lists
    combined by `op` -/
theorem widen_both (null : α) {sh osh : Shp} (wf : WF sh) (hsl : sh.hasSlice = true) (wfo : WF osh)
    (ohsl : osh.hasSlice = true) {self other r : KeyState α} {f g : Nat → Nat → Nat → Option α}
    (hself : Den null sh self f) (hother : Den null osh other g) {d : Cls}
    (hd : d ∈ validClasses sh) (hdo : d ∈ validClasses osh ∨ mult osh d = 1)
    (op : List α → List α → List α)
    (hr : (match changeClassK null sh self d, getChangedK null osh other d with
      | .ok (some (_, lv')), .ok ov' => (.ok (some (d, op lv' ov')) : Except Err (KeyState α))
      | .error e, _ => .error e
      | _, .error e => .error e
      | _, _ => .error .other) = .ok r) :
    ∃ lv' ov', Tab sh d lv' f ∧ Tab osh d ov' g ∧ r = some (d, op lv' ov') := by
  cases h1 : changeClassK null sh self d with
  | error e => simp [h1] at hr
  | ok x =>
    obtain ⟨lv', rfl, hl⟩ := changeClass_tab null sh wf hsl hself (Or.inl hd) h1
    cases h2 : getChangedK null osh other d with
    | error e => simp [h1, h2] at hr
    | ok ov' =>
      simp only [h1, h2, Except.ok.injEq] at hr
      exact ⟨lv', ov', hl, getChanged_tab null osh wfo ohsl hother hdo h2, hr.symm⟩

end reclassify

section insert
variable {α : Type} [DecidableEq α]

namespace Total

/-- **the first loop of `_insert` never fails**, whatever the two classes are, and leaves the key in
    a class the other side can be widened to -/
theorem reclassifyK_ok (null : α) (sh : Shp) (self b : KeyState α) :
    ∃ c lv, reclassifyK null sh self (otherClass b) = .ok (some (c, lv)) ∧
      Reach (b.map (·.1)) c := by
  obtain ⟨c, hc, hr, hl⟩ := reclassC_total sh.hasTime sh.hasVector (self.map (·.1)) (b.map (·.1))
  obtain ⟨lv, hlv⟩ := changeClassK_ok null sh self c (hl.elim Or.inl id)
  exact ⟨c, lv, by rw [reclassifyK_eq, otherClass_eq, hc]; exact hlv, hr⟩

end Total

/-! ### `_insert_slice` -/

/-- where an insert function leaves a key it found in class `c` with values `lv`: in global slices;
    where it was (a constant both sides agree on, or the class `X` of the merge axis); or — a
    constant the other side contradicts — in the class of the merge axis, and then two positions
    along the axis read differently (`varies`) -/
def InsOut (X : Cls → Prop) (varies : Prop) (c : Cls) (lv : List α) (r : KeyState α) : Prop :=
  (∃ vals, r = some (gslices, vals)) ∨ (c = gconst ∧ r = some (gconst, lv)) ∨
    (X c ∧ ∃ vals, r = some (c, vals)) ∨
    (c = gconst ∧ varies ∧ ∃ c' vals, X c' ∧ r = some (c', vals))

/-- the classes the slice axis has of its own: time slices, or vector slices when there is no time
    dictionary (the `dest` of `_insert_slice`) -/
def XS (sh : Shp) (c : Cls) : Prop := c = tslices ∨ (c = vslices ∧ sh.hasTime = false)

/-- what the merged key reads along the slice axis: the `k` slices held so far, then the new one -/
def glueS {α : Type} (k : Nat) (f g : Nat → Nat → Nat → Option α) : Nat → Nat → Nat → Option α :=
  fun s t v => if s < k then f s t v else g 0 t v

/-- what the merged key reads along the time axis (one vector component), resp. the vector axis -/
def glueT {α : Type} (k : Nat) (f g : Nat → Nat → Nat → Option α) : Nat → Nat → Nat → Option α :=
  fun s t v => if t < k then f s t v else g s 0 v
def glueV {α : Type} (k : Nat) (f g : Nat → Nat → Nat → Option α) : Nat → Nat → Nat → Option α :=
  fun s t v => if v < k then f s t v else g s t 0

/-- the shape `_insert_slice` and `_insert_sample` share: a constant both sides agree on stays; one the
    other side contradicts goes to `dest` with the other side's values appended; a key in the class `X` of
    the fast path gets them appended; anything else goes through global slices, combined by `opG` -/
def insertK (null : α) (sh osh : Shp) (X dest : Cls) (opG : List α → List α → List α)
    (self other : KeyState α) : Except Err (KeyState α) :=
  match self with
  | none => .error .other
  | some (c, lv) =>
    match getChangedK null osh other c with
    | .error e => .error e
    | .ok ov =>
      if c = gconst then
        if lv = ov then .ok self
        else
          match changeClassK null sh self dest, getChangedK null osh other dest with
          | .ok (some (_, lv')), .ok ov' => .ok (some (dest, lv' ++ ov'))
          | .error e, _ => .error e
          | _, .error e => .error e
          | _, _ => .error .other
      else if c = X then .ok (some (X, lv ++ ov))
      else if c = gslices then .ok (some (gslices, opG lv ov))
      else
        match changeClassK null sh self gslices, getChangedK null osh other gslices with
        | .ok (some (_, lv')), .ok ov' => .ok (some (gslices, opG lv' ov'))
        | .error e, _ => .error e
        | _, .error e => .error e
        | _, _ => .error .other

theorem insertSliceK_eq (null : α) (sh osh : Shp) (self other : KeyState α) :
    insertSliceK null sh osh self other =
      insertK null sh osh tslices
        (if sh.hasTime then tslices else if sh.hasVector then vslices else gslices)
        (interleave sh.S osh.S (sh.T * sh.V)) self other := rfl

theorem insertSampleK_eq (null : α) (isTime : Bool) (sh osh : Shp) (self other : KeyState α) :
    insertSampleK null isTime sh osh self other =
      insertK null sh osh (if isTime then tsamples else vsamples)
        (if isTime then tsamples else vsamples)
        (if isTime && sh.nd == 5 then interleave (sh.S * sh.T) (sh.S * osh.T) sh.V else (· ++ ·))
        self other := by
  unfold insertSampleK insertK
  cases (isTime && sh.nd == 5) <;> rfl

/-- the shared insert, given what the instances differ in: the grown shape `sh'`, how the two
    denotations are glued, that appending is right in the class `X` of the fast path and in `dest`
    (`happ`), and that `opG` is right in global slices (`hG`) -/
theorem insertK_den (null : α) (sh osh sh' : Shp) (X dest : Cls) (opG : List α → List α → List α)
    (P : Cls → Prop)
    (glue : (Nat → Nat → Nat → Option α) → (Nat → Nat → Nat → Option α) → Nat → Nat → Nat → Option α)
    (wf : WF sh) (hsl : sh.hasSlice = true) (wfo : WF osh) (ohsl : osh.hasSlice = true)
    (hvc : validClasses sh' = validClasses sh) (hPX : P X)
    (hoX : X ∈ validClasses osh ∨ mult osh X = 1)
    (hdest : dest ∈ validClasses sh) (hod : dest ∈ validClasses osh ∨ mult osh dest = 1)
    (hPd : dest = gslices ∨ P dest) (hog : gslices ∈ validClasses osh)
    (happ : ∀ d, d = X ∨ d = dest →
      ∀ lv' ov' f g, Tab sh d lv' f → Tab osh d ov' g → Tab sh' d (lv' ++ ov') (glue f g))
    (hG : ∀ lv' ov' f g, Tab sh gslices lv' f → Tab osh gslices ov' g →
      Tab sh' gslices (opG lv' ov') (glue f g))
    (hconst : ∀ lv f g, Tab sh gconst lv f → Tab osh gconst lv g → Tab sh' gconst lv (glue f g))
    (varies : (Nat → Nat → Nat → Option α) → (Nat → Nat → Nat → Option α) → Prop)
    (hvar : ∀ lv ov f g, Tab sh gconst lv f → Tab osh gconst ov g → lv ≠ ov → varies f g)
    {c : Cls} {lv : List α} {other r : KeyState α} {f g : Nat → Nat → Nat → Option α}
    (hself : Den null sh (some (c, lv)) f) (hother : Den null osh other g)
    (h : insertK null sh osh X dest opG (some (c, lv)) other = .ok r) :
    Den null sh' r (glue f g) ∧ InsOut P (varies f g) c lv r := by
  obtain ⟨hcv, hlv⟩ := den_some.mp hself
  unfold insertK at h
  dsimp only at h
  cases hgo : getChangedK null osh other c with
  | error e => simp [hgo] at h
  | ok ov =>
    simp only [hgo] at h
    by_cases hcg : c = gconst
    · subst hcg
      rw [if_pos rfl] at h
      have hov := getChanged_tab null osh wfo ohsl hother (Or.inl (gconst_valid _)) hgo
      by_cases heq : lv = ov
      · subst heq
        rw [if_pos rfl] at h; injection h with h; subst h
        exact ⟨den_some.mpr ⟨gconst_valid _, hconst lv f g hlv hov⟩, Or.inr (Or.inl ⟨rfl, rfl⟩)⟩
      · rw [if_neg heq] at h
        obtain ⟨lv', ov', hl, ho, rfl⟩ :=
          widen_both null wf hsl wfo ohsl hself hother hdest hod (· ++ ·) h
        refine ⟨den_some.mpr ⟨hvc ▸ hdest, happ dest (Or.inr rfl) _ _ _ _ hl ho⟩, ?_⟩
        rcases hPd with rfl | hPd
        · exact Or.inl ⟨_, rfl⟩
        · exact Or.inr (Or.inr (Or.inr ⟨rfl, hvar lv ov f g hlv hov heq, _, _, hPd, rfl⟩))
    · rw [if_neg hcg] at h
      by_cases hcs : c = X
      · subst hcs
        rw [if_pos rfl] at h; injection h with h; subst h
        exact ⟨den_some.mpr ⟨hvc ▸ hcv, happ _ (Or.inl rfl) _ _ _ _ hlv
          (getChanged_tab null osh wfo ohsl hother hoX hgo)⟩,
          Or.inr (Or.inr (Or.inl ⟨hPX, _, rfl⟩))⟩
      · rw [if_neg hcs] at h
        by_cases hcgs : c = gslices
        · subst hcgs
          rw [if_pos rfl] at h; injection h with h; subst h
          exact ⟨den_some.mpr ⟨gslices_valid _, hG _ _ _ _ hlv
            (getChanged_tab null osh wfo ohsl hother (Or.inl hog) hgo)⟩, Or.inl ⟨_, rfl⟩⟩
        · rw [if_neg hcgs] at h
          obtain ⟨lv', ov', hl, ho, rfl⟩ := widen_both null wf hsl wfo ohsl hself hother
            (gslices_valid _) (Or.inl hog) opG h
          exact ⟨den_some.mpr ⟨gslices_valid _, hG _ _ _ _ hl ho⟩, Or.inl ⟨_, rfl⟩⟩

/-- **`_insert_slice` puts the other input behind the slices held so far** -/
theorem insertSlice_den (null : α) (sh : Shp) (hc : Consistent sh) {c : Cls} {lv : List α}
    {other r : KeyState α} {f g : Nat → Nat → Nat → Option α}
    (hself : Den null sh (some (c, lv)) f) (hother : Den null { sh with S := 1 } other g)
    (h : insertSliceK null sh { sh with S := 1 } (some (c, lv)) other = .ok r) :
    Den null { sh with S := sh.S + 1 } r (glueS sh.S f g) ∧
    InsOut (XS sh)
      (glueS sh.S f g 0 0 0 ≠ glueS sh.S f g sh.S 0 0) c lv r := by
  have wf : WF sh := hc.toWFnd.toWF
  have hsl := hc.hsl
  have wfo : WF { sh with S := 1 } := ⟨Nat.one_pos, wf.hT, wf.hV⟩
  -- in time slices the index is the slice index and there is one value per slice …
  have hts : (∀ S' s t v, t < sh.T → v < sh.V → proj { sh with S := S' } s t v tslices = s) ∧
      ∀ S', mult { sh with S := S' } tslices = S' :=
    ⟨fun _ _ _ _ _ _ => rfl, fun S' => by simp [mult, hsl]⟩
  -- … and so it is in the class a constant that starts to vary moves to: per slice, of the slowest
  -- base present
  have hdest : ∀ d, d = (if sh.hasTime then tslices else if sh.hasVector then vslices else gslices) →
      d ∈ validClasses sh ∧ (d = gslices ∨ XS sh d) ∧
      (∀ S' s t v, t < sh.T → v < sh.V → proj { sh with S := S' } s t v d = s) ∧
      ∀ S', mult { sh with S := S' } d = S' := by
    rintro d rfl
    by_cases htm : sh.hasTime = true
    · rw [if_pos htm]; exact ⟨consistent_base sh hc tslices htm, Or.inr (Or.inl rfl), hts⟩
    rw [if_neg htm]
    -- no time dictionary: one time point
    have hT1 : sh.T = 1 := by
      rcases hc.hnd with h3 | h4 | h5
      · exact (hc.h3 h3).1
      · exact absurd (hc.htime.mpr ⟨by omega, hc.trimmed4 h4⟩) htm
      · exact Classical.byContradiction fun hT => htm (hc.htime.mpr ⟨by omega, hT⟩)
    by_cases hvm : sh.hasVector = true
    · rw [if_pos hvm]
      refine ⟨consistent_base sh hc vslices hvm, Or.inr (Or.inr ⟨rfl, by simpa using htm⟩),
        fun S' s t v ht hv => ?_, fun S' => by simp [mult, hsl, hT1]⟩
      obtain rfl : t = 0 := by omega
      simp [proj]
    · rw [if_neg hvm]
      have hV1 : sh.V = 1 := by
        rcases hc.hnd with h3 | h4 | h5
        · exact (hc.h3 h3).2
        · exact hc.h4 h4
        · exact absurd (hc.hvec.mpr h5) hvm
      refine ⟨gslices_valid _, Or.inl rfl, fun S' s t v ht hv => ?_,
        fun S' => by simp [mult, hsl, hT1, hV1]⟩
      obtain rfl : t = 0 := by omega
      obtain rfl : v = 0 := by omega
      simp [proj]
  obtain ⟨hdv, hPd, hdf⟩ := hdest _ rfl
  rw [insertSliceK_eq] at h
  refine insertK_den null sh { sh with S := 1 } { sh with S := sh.S + 1 } tslices _ _ (XS sh)
    (glueS sh.S) wf hsl wfo hsl rfl (Or.inl rfl) (Or.inr (by simp [mult, hsl])) hdv (Or.inl hdv) hPd
    (gslices_valid _) ?_ (fun lv' ov' f g hl ho => Tab.interleave hsl hl ho) ?_
    (fun f g => glueS sh.S f g 0 0 0 ≠ glueS sh.S f g sh.S 0 0) ?_ hself hother h
  · -- appending is right where the index along the merge is the slice index
    intro d hd lv' ov' f g hl ho
    obtain ⟨hproj, hmult⟩ : (∀ S' s t v, t < sh.T → v < sh.V → proj { sh with S := S' } s t v d = s) ∧
        ∀ S', mult { sh with S := S' } d = S' := by rcases hd with rfl | rfl; exact hts; exact hdf
    refine Tab.append hl ho (by rw [hmult, hmult, hmult]) (fun s t v ⟨hs, ht, hv⟩ => ?_) hsl
    by_cases hlt : s < sh.S
    · exact Or.inl ⟨⟨hlt, ht, hv⟩, by rw [hproj _ s t v ht hv, hproj _ s t v ht hv],
        by simp only [glueS, hlt, if_true]⟩
    · have hs' : s < sh.S + 1 := hs
      refine Or.inr ⟨0, t, v, ⟨Nat.one_pos, ht, hv⟩, ?_, by simp only [glueS, hlt, if_false]⟩
      rw [hproj _ s t v ht hv, hproj _ 0 t v ht hv, hmult]; omega
  · intro lv f g hl ho
    refine ⟨hl.1, fun s t v ⟨hs, ht, hv⟩ => ?_⟩
    simp only [glueS]
    split
    · rename_i hlt; exact hl.2 s t v ⟨hlt, ht, hv⟩
    · exact ho.2 0 t v ⟨Nat.one_pos, ht, hv⟩
  · intro lv ov f g hl ho hne
    simp only [glueS, wf.hS, if_true, Nat.lt_irrefl, if_false]
    exact hl.gconst_ne ho hne ⟨wf.hS, wf.hT, wf.hV⟩ ⟨Nat.one_pos, wf.hT, wf.hV⟩

/-! ### `_insert_sample` -/

/-- **`_insert_sample(…, 'time')`** for 3-D inputs merged into a 4-D result -/
theorem insertTime_den (null : α) (sh osh : Shp) (hs : TimeSetup sh osh) {c : Cls} {lv : List α}
    {other r : KeyState α} {f g : Nat → Nat → Nat → Option α}
    (hself : Den null sh (some (c, lv)) f) (hother : Den null osh other g)
    (h : insertSampleK null true sh osh (some (c, lv)) other = .ok r) :
    Den null { sh with T := sh.T + 1 } r (glueT sh.T f g) ∧
    InsOut (· = tsamples) (glueT sh.T f g 0 0 0 ≠ glueT sh.T f g 0 sh.T 0) c lv r := by
  obtain ⟨wf, hsl, nd4, v1, ond, oS, oT, oV, ohsl⟩ := hs
  have wfo : WF osh := ⟨by rw [oS]; exact wf.hS, by omega, by omega⟩
  have h' : insertK null sh osh tsamples tsamples (· ++ ·) (some (c, lv)) other = .ok r := by
    rw [← h, insertSampleK_eq]; simp [nd4]
  have hosamp : mult osh tsamples = 1 := by simp [mult, oT, oV]
  have happ : ∀ d, d = tsamples ∨ d = gslices → ∀ (lv' ov' : List α) f g, Tab sh d lv' f → Tab osh d ov' g →
      Tab { sh with T := sh.T + 1 } d (lv' ++ ov') (glueT sh.T f g) := by
    intro d hd lv' ov' f g hl ho
    -- one vector component: the time index is the slowest coordinate of both classes
    refine Tab.append hl ho ?_ (fun s t v ⟨hs, ht, hv⟩ => ?_) hsl
    · rcases hd with rfl | rfl <;> simp [mult, hsl, ohsl, v1, oS, oT, oV, Nat.mul_add]
    · have ht' : t < sh.T + 1 := ht
      obtain rfl : v = 0 := by have : v < sh.V := hv; omega
      by_cases hlt : t < sh.T
      · exact Or.inl ⟨⟨hs, hlt, hv⟩, by rcases hd with rfl | rfl <;> simp [proj],
          by simp only [glueT, hlt, if_true]⟩
      · obtain rfl : t = sh.T := by omega
        refine Or.inr ⟨s, 0, 0, ⟨by rw [oS]; exact hs, by omega, by omega⟩, ?_,
          by simp only [glueT, hlt, if_false]⟩
        rcases hd with rfl | rfl <;> simp [proj, mult, hsl, v1, oS, Nat.add_comm]
  refine insertK_den null sh osh { sh with T := sh.T + 1 } tsamples tsamples _ (· = tsamples)
    (glueT sh.T) wf hsl wfo ohsl (by simp [validClasses, nd4]) rfl (Or.inr hosamp)
    (by simp [validClasses, nd4]) (Or.inr hosamp) (Or.inr rfl) (gslices_valid _)
    (fun d hd => happ d (Or.inl (hd.elim id id))) (happ gslices (Or.inr rfl)) ?_
    (fun f g => glueT sh.T f g 0 0 0 ≠ glueT sh.T f g 0 sh.T 0) ?_ hself hother h'
  · intro lv f g hl ho
    refine ⟨hl.1, fun s t v ⟨hs, ht, hv⟩ => ?_⟩
    have hv0 : v = 0 := by have : v < sh.V := hv; omega
    simp only [glueT]
    split
    · rename_i hlt; exact hl.2 s t v ⟨hs, hlt, hv⟩
    · exact ho.2 s 0 v ⟨by rw [oS]; exact hs, by omega, by omega⟩
  · intro lv ov f g hl ho hne
    simp only [glueT, wf.hT, if_true, Nat.lt_irrefl, if_false]
    exact hl.gconst_ne ho hne ⟨wf.hS, wf.hT, wf.hV⟩ ⟨wfo.hS, wfo.hT, wfo.hV⟩

/-- **`_insert_sample(…, 'vector')`** for 3-D / 4-D inputs merged into a 5-D result -/
theorem insertVector_den (null : α) (sh osh : Shp) (hs : VecSetup sh osh) {c : Cls} {lv : List α}
    {other r : KeyState α} {f g : Nat → Nat → Nat → Option α}
    (hself : Den null sh (some (c, lv)) f) (hother : Den null osh other g)
    (h : insertSampleK null false sh osh (some (c, lv)) other = .ok r) :
    Den null { sh with V := sh.V + 1 } r (glueV sh.V f g) ∧
    InsOut (· = vsamples) (glueV sh.V f g 0 0 0 ≠ glueV sh.V f g 0 0 sh.V) c lv r := by
  obtain ⟨wf, hsl, nd5, ohsl, oS, oT, oV, ond⟩ := hs
  have wfo : WF osh := ⟨by rw [oS]; exact wf.hS, by rw [oT]; exact wf.hT, by omega⟩
  have h' : insertK null sh osh vsamples vsamples (· ++ ·) (some (c, lv)) other = .ok r := by
    rw [← h, insertSampleK_eq]; rfl
  have hosamp : mult osh vsamples = 1 := by simp [mult, oV]
  have happ : ∀ d, d = vsamples ∨ d = gslices → ∀ (lv' ov' : List α) f g, Tab sh d lv' f → Tab osh d ov' g →
      Tab { sh with V := sh.V + 1 } d (lv' ++ ov') (glueV sh.V f g) := by
    intro d hd lv' ov' f g hl ho
    refine Tab.append hl ho ?_ (fun s t v ⟨hs, ht, hv⟩ => ?_) hsl
    · rcases hd with rfl | rfl <;> simp [mult, hsl, ohsl, oS, oT, oV, Nat.mul_add]
    · have hv' : v < sh.V + 1 := hv
      by_cases hlt : v < sh.V
      · exact Or.inl ⟨⟨hs, ht, hlt⟩, by rcases hd with rfl | rfl <;> simp [proj],
          by simp only [glueV, hlt, if_true]⟩
      · obtain rfl : v = sh.V := by omega
        refine Or.inr ⟨s, t, 0, ⟨by rw [oS]; exact hs, by rw [oT]; exact ht, by omega⟩, ?_,
          by simp only [glueV, hlt, if_false]⟩
        rcases hd with rfl | rfl
        · simp [proj, mult]
        · simp only [proj, mult, hsl, if_true, oS, oT, Nat.mul_zero, Nat.add_zero]
          rw [Nat.mul_add, ← Nat.mul_assoc]; omega
  refine insertK_den null sh osh { sh with V := sh.V + 1 } vsamples vsamples _ (· = vsamples)
    (glueV sh.V) wf hsl wfo ohsl rfl rfl (Or.inr hosamp)
    (by unfold validClasses; simp [nd5]; split <;> simp) (Or.inr hosamp) (Or.inr rfl) (gslices_valid _)
    (fun d hd => happ d (Or.inl (hd.elim id id))) (happ gslices (Or.inr rfl)) ?_
    (fun f g => glueV sh.V f g 0 0 0 ≠ glueV sh.V f g 0 0 sh.V) ?_ hself hother h'
  · intro lv f g hl ho
    refine ⟨hl.1, fun s t v ⟨hs, ht, hv⟩ => ?_⟩
    simp only [glueV]
    split
    · rename_i hlt; exact hl.2 s t v ⟨hs, ht, hlt⟩
    · exact ho.2 s t 0 ⟨by rw [oS]; exact hs, by rw [oT]; exact ht, by omega⟩
  · intro lv ov f g hl ho hne
    simp only [glueV, wf.hV, if_true, Nat.lt_irrefl, if_false]
    exact hl.gconst_ne ho hne ⟨wf.hS, wf.hT, wf.hV⟩ ⟨wfo.hS, wfo.hT, wfo.hV⟩

/-! ### one step of `from_sequence` on one key -/

/-- the shape the per-key steps of `from_sequence` share: nothing to do when neither side has the
    key; otherwise the reclassification loop of `_insert`, then the insert function of the axis -/
def stepWith (null : α) (sh : Shp) (ins : KeyState α → KeyState α → Except Err (KeyState α))
    (self b : KeyState α) : Except Err (KeyState α) :=
  if self = none ∧ b = none then .ok none else
  match reclassifyK null sh self (otherClass b) with
  | .error e => .error e
  | .ok a1 => ins a1 b

/-- class-wise outcome of a step: absent, constant, global slices, or a class `X` of the merge axis
    that `self` already had or that varies now -/
def StepOut (X : Cls → Prop) (varies : Prop) (self r : KeyState α) : Prop :=
  match r with
  | none => True
  | some (c', _) => c' = gconst ∨ c' = gslices ∨ (X c' ∧ (varies ∨ ∃ lv, self = some (c', lv)))

omit [DecidableEq α] in
/-- a step denotes what its insert function denotes, once the key is present on `self`'s side
    (`hnull` covers the key that neither side has). The premise of the class-wise part says that the
    other input does not hold the key in a class of the merge axis (the hypotheses of
    `reclassC_keeps`). -/
theorem stepWith_den (null : α) (sh sh' : Shp) (wf : WF sh) (hsl : sh.hasSlice = true)
    (hbase : ∀ d, basePresent sh d = true → d ∈ validClasses sh)
    {ins : KeyState α → KeyState α → Except Err (KeyState α)} {self b r : KeyState α}
    {f h : Nat → Nat → Nat → Option α} (X : Cls → Prop) (varies : Prop)
    (hself : Den null sh self f)
    (hoc : otherClass b ∈ validClasses sh)
    (hnull : self = none → b = none → Den null sh' none h)
    (hins : ∀ c lv, Den null sh (some (c, lv)) f → ins (some (c, lv)) b = .ok r →
      Den null sh' r h ∧ InsOut X varies c lv r)
    (hr : stepWith null sh ins self b = .ok r) :
    Den null sh' r h ∧
    ((∀ x, X x →
        otherClass b ≠ x ∧ (x ∈ preserving (some (otherClass b)) → otherClass b = gconst)) →
      StepOut X varies self r) := by
  unfold stepWith at hr
  split at hr
  · rename_i hnn
    injection hr with hr; subst hr
    exact ⟨hnull hnn.1 hnn.2, fun _ => trivial⟩
  · cases h1 : reclassifyK null sh self (otherClass b) with
    | error e => simp [h1] at hr
    | ok a1 =>
      simp only [h1] at hr
      obtain ⟨⟨c, lv, rfl⟩, hd⟩ := reclassify_den null sh wf hsl hbase hself hoc h1
      obtain ⟨hden, hout⟩ := hins c lv hd hr
      refine ⟨hden, fun hocX => ?_⟩
      rcases hout with ⟨vals, rfl⟩ | ⟨rfl, rfl⟩ | ⟨hX, vals, rfl⟩ | ⟨rfl, hv, c', vals, hX, rfl⟩
      · exact Or.inr (Or.inl rfl)
      · exact Or.inl rfl
      · have := Total.reclassify_keeps null sh (hocX c hX).1 (hocX c hX).2 h1 rfl
        exact Or.inr (Or.inr ⟨hX, Or.inr ⟨lv, this.symm⟩⟩)
      · exact Or.inr (Or.inr ⟨hX, Or.inl hv⟩)

/-! ### the inserts and the steps cannot fail -/

namespace Total

theorem gslices_reach (cb : Option Cls) : Reach cb gslices := by
  cases cb with
  | none => decide
  | some c => cases c <;> decide

theorem reach_of_gconst (cb : Option Cls) (h : Reach cb gconst) (d : Cls) (hd : d ≠ gconst) :
    Reach cb d := by
  cases cb with
  | none => cases d <;> first | exact absurd rfl hd | decide
  | some c =>
    cases c
    · cases d <;> first | exact absurd rfl hd | decide
    all_goals (exfalso; revert h; decide)

theorem insertK_ok (null : α) (sh osh : Shp) (X dest : Cls) (opG : List α → List α → List α)
    (hdest : dest ≠ gconst) (c : Cls) (lv : List α) (b : KeyState α) (hr : Reach (b.map (·.1)) c) :
    ∃ r, insertK null sh osh X dest opG (some (c, lv)) b = .ok r := by
  unfold insertK
  obtain ⟨ov, hov⟩ := getChangedK_ok null osh b c hr
  simp only [hov]
  by_cases hg : c = gconst
  · subst hg
    by_cases he : lv = ov
    · simp [he]
    · obtain ⟨lv', ov', h1, h2⟩ := widen_both_ok null sh osh (some (gconst, lv)) b dest
        (reach_of_gconst _ (Or.inl rfl) _ hdest) (reach_of_gconst _ hr _ hdest)
      simp [he, h1, h2]
  · simp only [hg, if_false]
    by_cases hs : c = X
    · simp [hs]
    · simp only [hs, if_false]
      by_cases hgs : c = gslices
      · simp [hgs]
      · obtain ⟨lv', ov', h1, h2⟩ :=
          widen_both_ok null sh osh (some (c, lv)) b gslices (gslices_reach _) (gslices_reach _)
        simp [hgs, h1, h2]

/-- **`_insert_slice` never fails** once the key sits in a class the other side can be widened to -/
theorem insertSliceK_ok (null : α) (sh osh : Shp) (c : Cls) (lv : List α) (b : KeyState α)
    (hr : Reach (b.map (·.1)) c) :
    ∃ r, insertSliceK null sh osh (some (c, lv)) b = .ok r := by
  rw [insertSliceK_eq]
  exact insertK_ok null sh osh _ _ _ (by split; decide; split <;> decide) c lv b hr

/-- **`_insert_sample` never fails** either -/
theorem insertSampleK_ok (null : α) (isTime : Bool) (sh osh : Shp) (c : Cls) (lv : List α)
    (b : KeyState α) (hr : Reach (b.map (·.1)) c) :
    ∃ r, insertSampleK null isTime sh osh (some (c, lv)) b = .ok r := by
  rw [insertSampleK_eq]
  exact insertK_ok null sh osh _ _ _ (by cases isTime <;> decide) c lv b hr

theorem stepWith_ok (null : α) (sh : Shp) (ins : KeyState α → KeyState α → Except Err (KeyState α))
    (self b : KeyState α)
    (hins : ∀ c lv, Reach (b.map (·.1)) c → ∃ r, ins (some (c, lv)) b = .ok r) :
    ∃ r, stepWith null sh ins self b = .ok r := by
  unfold stepWith
  split
  · exact ⟨_, rfl⟩
  · obtain ⟨c, lv, h1, hr⟩ := reclassifyK_ok null sh self b
    rw [h1]
    exact hins c lv hr

theorem stepSliceK_ok (null : α) (sh : Shp) (self b : KeyState α) :
    ∃ r, stepSliceK null sh self b = .ok r :=
  stepWith_ok null sh _ self b fun c lv hr => insertSliceK_ok null sh _ c lv b hr

theorem stepSampleK_ok (null : α) (isTime : Bool) (sh osh : Shp) (self b : KeyState α) :
    ∃ r, stepSampleK null isTime sh osh self b = .ok r :=
  stepWith_ok null sh _ self b fun c lv hr => insertSampleK_ok null isTime sh osh c lv b hr

end Total
end insert
