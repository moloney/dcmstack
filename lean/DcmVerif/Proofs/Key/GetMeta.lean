import DcmVerif.Model.Key
/-! `NiftiWrapper.get_meta` / `meta_valid` (C08), with the F2 and F16 repairs: on a matching image
the value at the asked position under the documented layout; otherwise the default. -/
set_option autoImplicit false
open Cls

section get_meta
variable {α : Type} [DecidableEq α]

theorem metaValid_matched (e : ExtGeom) (img : Img) (sh : Shp) (sd : Nat)
    (hm : Matched e img sh sd) (c : Cls) : metaValid e img c = true := by
  obtain ⟨hshape, hsd, hesd, hal, _, _, _, _, _⟩ := hm
  cases c <;> simp only [metaValid, hshape, hsd, hesd, hal, beq_self_eq_true, Bool.and_self]

/-- **C08, matching image, in-bounds index:** `get_meta` returns the value at the asked position
    under the documented layout. -/
theorem getMeta_matched (e : ExtGeom) (img : Img) (sh : Shp) (sd : Nat)
    (hm : Matched e img sh sd) (c : Cls) (hcg : c ≠ gconst) (vals : List α)
    (idx : List Nat) (hil : idx.length = img.shape.length)
    (hib : (List.zip idx img.shape).all (fun p => decide (p.1 < p.2)) = true) :
    getMeta e img (some (c, vals)) (some idx) =
      GetOut.ofIdx (lookupK sh c vals (idx.getD sd 0) (idx.getD 3 0) (idx.getD 4 0)) := by
  have hv := metaValid_matched e img sh sd hm
  obtain ⟨_, hsd, _, _, _, _, hS, hT, hV⟩ := hm
  unfold getMeta
  simp only [hcg, if_false, hv c, Bool.not_true, Bool.false_eq_true, hil, ne_eq,
    not_true_eq_false, hib]
  simp only [hsd, hS, hT, lookupK]
  cases c <;> first | exact absurd rfl hcg | rfl

/-- **C08, mismatch:** when the image no longer matches the extension for the key's class, the
    default is returned — whatever the index (never a value from another position, never an
    exception). -/
theorem getMeta_mismatch (e : ExtGeom) (img : Img) (c : Cls) (hcg : c ≠ gconst) (vals : List α)
    (h : metaValid e img c = false) (index : Option (List Nat)) :
    getMeta e img (some (c, vals)) index = .dflt := by
  unfold getMeta; simp [hcg, h]

/-- **C08, no index:** only global constants are returned without an index. -/
theorem getMeta_noindex (e : ExtGeom) (img : Img) (c : Cls) (hcg : c ≠ gconst) (vals : List α) :
    getMeta e img (some (c, vals)) none = .dflt := by
  unfold getMeta; simp [hcg]

/-- **C08, bounds:** on a matching image a wrong-length or out-of-range index raises. -/
theorem getMeta_bounds (e : ExtGeom) (img : Img) (c : Cls) (hcg : c ≠ gconst) (vals : List α)
    (hv : metaValid e img c = true) (idx : List Nat)
    (hbad : idx.length ≠ img.shape.length ∨
      (List.zip idx img.shape).all (fun p => decide (p.1 < p.2)) = false) :
    getMeta e img (some (c, vals)) (some idx) = .indexError := by
  unfold getMeta
  simp only [hcg, if_false, hv, Bool.not_true, Bool.false_eq_true]
  rcases hbad with h | h
  · simp [h]
  · by_cases hl : idx.length ≠ img.shape.length
    · simp [hl]
    · simp [hl, h]
end get_meta
