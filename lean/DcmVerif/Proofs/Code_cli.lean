import DcmVerif.Generated.Code_cli
import DcmVerif.Proofs.CodeLemmas
/-! The naming of output files in `dcmstack_cli.main` as translated from dcmstack_cli.py is the model's step of `Cli.outNames`. -/
set_option autoImplicit false

namespace Src
open Cli

theorem pickFree_while (fmt : Nat → String) (gen : List String) (name : String) : ∀ (k i : Nat) (c : String),
    pickFree fmt gen name k i = some c →
      gen.contains (suffixed fmt name (whileFuel (fun u => gen.contains (suffixed fmt name u)) (· + 1) k i)) = false ∧
      c = suffixed fmt name (whileFuel (fun u => gen.contains (suffixed fmt name u)) (· + 1) k i)
  | 0, i, c, h => by cases h
  | k + 1, i, c, h => by
    unfold pickFree at h
    split at h
    · next hc =>
      simp only [whileFuel, hc, if_true]
      exact pickFree_while fmt gen name k (i + 1) c h
    · next hc =>
      cases h
      simp only [whileFuel, hc]
      exact ⟨by simpa using hc, rfl⟩

/-- the name the model chooses for one output file -/
def chosenName (fmt : Nat → String) (gen : List String) (n : String) (idx : Nat) : Option String :=
  if gen.contains n then pickFree fmt gen n (gen.length + 1) idx else some n

/-- **the naming of an output file in `dcmstack_cli.main`, as written, is the step of the model's `outNames`**: whenever the model
    yields a name the code yields that name, records it and advances the group counter -/
theorem cli_out_name_eq (fmt : Nat → String) (gen : List String) (n : String) (idx : Nat) (c : String)
    (h : chosenName fmt gen n idx = some c) :
    Py.cli_out_name fmt gen n idx = .ok (c, c :: gen, idx + 1) := by
  unfold Py.cli_out_name
  unfold chosenName at h
  cases hn : gen.contains n
  · simp only [hn, Bool.false_eq_true, if_false, Option.some.injEq] at h ⊢
    subst h
    rfl
  · simp only [hn, if_true] at h ⊢
    obtain ⟨hfree, hc⟩ := pickFree_while fmt gen n (gen.length + 1) idx c h
    rw [forIn_while (fun u => gen.contains (suffixed fmt n u)) (· + 1)]
    simp only [ok_bind', List.length_range, ← hc]
    have hfree' : gen.contains c = false := by rw [hc]; exact hfree
    simp only [hfree', Bool.false_eq_true, if_false]
    rfl

/-! the translated block computes (tests, not theorems) -/
example : Py.cli_out_name (fun i => toString i) ["a", "a-1"] "a" 1 = .ok ("a-2", ["a-2", "a", "a-1"], 2) := by rfl
example : Py.cli_out_name (fun i => toString i) ["a"] "b" 1 = .ok ("b", ["b", "a"], 2) := by rfl

end Src
