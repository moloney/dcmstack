import DcmVerif.Generated.Code_dicts
import DcmVerif.Model.Ext
import DcmVerif.Proofs.CodeLemmas
/-! Which dictionaries a new extension gets (`make_empty`) and where a key is looked up (`get_classification`,
`get_values_and_class`), as translated from dcmmeta.py. -/
set_option autoImplicit false

namespace Src
variable {α κ : Type}

/-- **the base dictionaries `make_empty` creates as written in dcmmeta.py are the ones the model's `makeEmpty` records** -/
theorem make_empty_bases_eq [DecidableEq κ] [DecidableEq α] (shape : List Nat) (sd : Option Nat) (r : DExt κ α)
    (h : DExt.makeEmpty shape sd = Res.ok r) :
    Py.make_empty_bases shape =
      .ok (["global"] ++ (if r.hasTime then ["time"] else []) ++ (if r.hasVector then ["vector"] else [])) := by
  unfold DExt.makeEmpty at h
  split at h
  · cases h
  · split at h
    · cases h
    · obtain rfl := Res.ok.inj h
      rcases (by omega : shape.length = 3 ∨ shape.length = 4 ∨ shape.length = 5) with hl | hl | hl <;>
        simp [Py.make_empty_bases, hl, pure, Except.pure]
      split <;> rfl

theorem classification_loop (d : KeyDict α) (valid : List Cls) :
    (forIn (m := Except PyErr) valid ((none : Option (Option Cls)), ()) fun cls_ __s =>
        if KeyDict.has d cls_ = true then pure (ForInStep.done (some (some cls_), ())) else pure (ForInStep.yield (none, ()))) =
      .ok ((valid.find? fun c => KeyDict.has d c).map some, ()) := by
  induction valid with
  | nil => rfl
  | cons x xs ih =>
    rw [List.forIn_cons, List.find?_cons]
    cases hx : KeyDict.has d x
    · exact ih
    · rfl

theorem get_classification_eq (shape : List Nat) (valid : List Cls) (hv : Py.get_valid_classes shape = .ok valid)
    (d : KeyDict α) : Py.get_classification shape d = .ok (valid.find? fun c => KeyDict.has d c) := by
  simp only [Py.get_classification, hv, ok_bind']
  rw [classification_loop d valid]
  cases valid.find? fun c => KeyDict.has d c <;> rfl

theorem findSome?_eq_find?_bind {β γ : Type} (f : β → Option γ) (l : List β) :
    l.findSome? f = (l.find? fun a => (f a).isSome).bind f := by
  induction l with
  | nil => rfl
  | cons a l ih =>
    rw [List.findSome?_cons, List.find?_cons]
    cases h : f a <;> simp [h, ih]

theorem has_eq_isSome (d : KeyDict α) (c : Cls) : KeyDict.has d c = (d.find? fun p => p.1 == c).isSome := by
  rw [Bool.eq_iff_iff]
  simp [KeyDict.has]

/-- no valid class holds the key, or `get_classification` finds the class `c` and `get_class_dict(c)[key]` the values -/
theorem valuesAndClass_cases (valid : List Cls) (d : KeyDict α) :
    (valid.find? (fun c => KeyDict.has d c) = none ∧ KeyDict.valuesAndClass valid d = none) ∨
      ∃ c v, valid.find? (fun c => KeyDict.has d c) = some c ∧ KeyDict.get d c = .ok v ∧
        KeyDict.valuesAndClass valid d = some (c, v) := by
  simp only [KeyDict.valuesAndClass, findSome?_eq_find?_bind, ← has_eq_isSome]
  cases hf : valid.find? fun c => KeyDict.has d c with
  | none => exact .inl ⟨rfl, rfl⟩
  | some c =>
    have hc := List.find?_some hf
    rw [has_eq_isSome, Option.isSome_iff_exists] at hc
    obtain ⟨⟨c', v⟩, hp⟩ := hc
    obtain rfl : c' = c := by simpa using List.find?_some hp
    exact .inr ⟨c', v, rfl, by rw [KeyDict.get, hp], hp⟩

/-- **`get_values_and_class` (with `get_classification`) as written in dcmmeta.py is the lookup `KeyDict.valuesAndClass` the
    whole-method translations use**: the first valid class, in the order of `get_valid_classes`, whose dictionary holds the key -/
theorem get_values_and_class_eq (shape : List Nat) (valid : List Cls) (hv : Py.get_valid_classes shape = .ok valid)
    (d : KeyDict α) :
    Py.get_values_and_class shape d = .ok (KeyDict.valuesAndClass valid d) := by
  rcases valuesAndClass_cases valid d with ⟨hf, hr⟩ | ⟨c, v, hf, hg, hr⟩ <;>
    simp only [Py.get_values_and_class, get_classification_eq shape valid hv, ok_bind', *] <;> rfl

/-- **`get_values` as written in dcmmeta.py is the value half of that lookup**: the values under the first valid class, in the
    order of `get_valid_classes`, whose dictionary holds the key; None for a key no valid class holds -/
theorem get_values_eq (shape : List Nat) (valid : List Cls) (hv : Py.get_valid_classes shape = .ok valid)
    (d : KeyDict α) :
    Py.get_values shape d = .ok ((KeyDict.valuesAndClass valid d).map (·.2)) := by
  rcases valuesAndClass_cases valid d with ⟨hf, hr⟩ | ⟨c, v, hf, hg, hr⟩ <;>
    simp only [Py.get_values, get_classification_eq shape valid hv, ok_bind', *] <;> rfl

end Src
