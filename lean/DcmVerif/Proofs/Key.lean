import DcmVerif.Proofs.Key.Convert
import DcmVerif.Proofs.Key.RoundTrip
import DcmVerif.Proofs.Key.Dict
import DcmVerif.Proofs.Key.GetMeta
/-! The per-key theory of the DcmMeta extension (how its modules hang together: DESIGN.md §3), and
concrete runs of the model that meet the hypotheses of its theorems. -/
set_option autoImplicit false
open Cls

example : (mergeSliceK (α := Nat) 0 ⟨4, 1, 2, 1, true, true, false⟩
    [some (gconst, [1]), some (gconst, [2]), none]).toOption = some (some (tslices, [1, 2, 0])) := by decide +kernel
example : (mergeSliceK (α := Nat) 0 ⟨4, 1, 2, 1, true, true, false⟩
    [some (tsamples, [1, 2]), some (tsamples, [1, 2])]).toOption = some (some (tsamples, [1, 2])) := by decide +kernel
example : (mergeSliceK (α := Nat) 0 ⟨5, 1, 2, 2, true, true, true⟩
    [some (tsamples, [1, 2, 3, 4]), some (gconst, [7])]
      ).toOption = some (some (gslices, [1, 7, 2, 7, 3, 7, 4, 7])) := by decide +kernel
example : (mergeTimeK (α := Nat) 0 ⟨4, 2, 1, 1, true, true, false⟩ ⟨3, 2, 1, 1, true, false, false⟩
    [some (gconst, [1]), some (gconst, [2]), some (gslices, [3, 4])]).toOption
      = some (some (gslices, [1, 1, 2, 2, 3, 4])) := by decide +kernel
example : (mergeVecK (α := Nat) 0 ⟨5, 1, 2, 1, true, true, true⟩ ⟨4, 1, 2, 1, true, true, false⟩
    [some (tsamples, [1, 2]), some (tsamples, [1, 2]), none]).toOption
      = some (some (tsamples, [1, 2, 1, 2, 0, 0])) := by decide +kernel
example : Consistent ⟨5, 1, 2, 2, true, true, true⟩ :=
  { hS := by decide, hT := by decide, hV := by decide, hnd := by decide, h3 := by decide,
    h4 := by decide, hsl := rfl, htime := by decide, hvec := by decide, trimmed4 := by decide }
