import DcmVerif.Generated.Code_filter
import DcmVerif.Model.Key
/-! The filter `make_key_regex_filter` returns, as translated from dcmstack.py, is the model's `regexFilter`. -/
set_option autoImplicit false

namespace Src
variable {ρ κ : Type}

/-- **the filter `make_key_regex_filter` builds, as written in dcmstack.py, is the model's `regexFilter`** for every pair of
    pattern lists, the empty ones included (an empty exclude list removes nothing — the repair of F36 —, an empty or absent include
    list rescues nothing): a key is dropped iff some exclude pattern matches it and no force-include pattern does -/
theorem key_regex_filter_eq (mtch : ρ → κ → Bool) (excl incl : List ρ) (key : κ) :
    Py.key_regex_filter mtch excl incl key = .ok (regexFilter mtch excl incl key) := by
  unfold Py.key_regex_filter regexFilter
  cases excl <;> cases incl <;> simp [reSearch, pure, Except.pure]

end Src
