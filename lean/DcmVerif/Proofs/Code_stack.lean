import DcmVerif.Generated.Code_stack
import DcmVerif.Proofs.Stack
import DcmVerif.Proofs.CodeLemmas
/-! the count checks of `get_shape` and the thorough check of `_chk_order` as translated from dcmstack.py are the model's acceptance test. -/
set_option autoImplicit false

namespace Src
variable {α κ : Type}
open Stk

/-! ### the count checks of `get_shape` -/

/-- the count conjuncts of the model's `acceptB` -/
def countsOk (n s v : Nat) (sp : Bool) : Bool :=
  decide (n ≠ 0) && (!(decide (s > 1)) || sp) && decide (n % s = 0) && decide (v ≤ n / s) &&
    decide (n / s % v = 0)

/-- **the count checks of `get_shape` as written in dcmstack.py are the count conjuncts of the model's
    acceptance test**, and the dimensions they derive are the model's `dimS`, `dimT`, `dimV` -/
theorem get_shape_counts_eq (n s v : Nat) (sp : Bool) :
    Py.get_shape_counts n s v sp =
      if countsOk n s v sp then .ok (s, n / s / v, v) else .error PyErr.invalidStack := by
  -- the guards in the order of the code: where one fires, the conjunct it stands for fails
  unfold Py.get_shape_counts countsOk
  simp only [throw_bind']
  by_cases h0 : n = 0
  · simp [h0]
  by_cases h2 : n % s = 0
  case neg => simp [h0, h2]
  by_cases h3 : v ≤ n / s
  case neg => simp [h0, h2, h3, Nat.lt_of_not_le h3]
  by_cases h4 : n / s % v = 0
  case neg => simp [h0, h2, h3, h4]
  cases sp <;> by_cases h1 : s > 1 <;>
    simp [h0, h1, h2, h3, h4, Nat.not_lt.mpr h3, pure, Except.pure]

/-- the model's acceptance test is those count conjuncts and the two order checks of `_chk_order` -/
theorem acceptB_counts (spacingOk : List Int → Bool) (files : List F) :
    acceptB spacingOk files =
      (countsOk files.length (dimS files) (dimV files) (spacingOk (distinctSorted (files.map (·.p)))) &&
       (chunks (dimT files * dimS files) (dimV files)
          (chkSort (dimS files) (files.length / dimS files) files)).all allSameV &&
       (chunks (dimS files) (files.length / dimS files)
          (chkSort (dimS files) (files.length / dimS files) files)).all
        (fun b => b.map (·.p) == distinctSorted (files.map (·.p)))) := by
  simp [acceptB, countsOk, Bool.and_assoc]

/-! ### the thorough check of `_chk_order` -/

/-- the condition the triple loop of `_chk_order` tests at (vector `v`, time `t`, slice `s`) -/
def cellOk (files : List (Int × Int × Int)) (pos : List Int) (S T : Nat) (v t s : Nat) : Bool :=
  (files[v * T * S + t * S + s]!).1 == (files[v * T * S]!).1 &&
  (files[v * T * S + t * S + s]!).2.2 == pos[s]!

/-- **the thorough check of `_chk_order` as written in dcmstack.py passes iff every cell of the grid
    holds the right file**: at (vector `v`, time `t`, slice `s`) of the sorted list the vector ordinate is
    that of the block's first file and the slice position is the `s`-th distinct position; otherwise
    it raises InvalidStackError — for every S, T, V -/
theorem chk_order_check_eq (files : List (Int × Int × Int)) (pos : List Int) (S T V : Nat) :
    Py.chk_order_check files pos S T V =
      if (List.range V).all (fun v => (List.range T).all fun t => (List.range S).all fun s =>
          cellOk files pos S T v t s)
      then .ok () else .error PyErr.invalidStack := by
  -- the loop bodies are read off the goal, not written out: three raising loops, one in the other
  unfold Py.chk_order_check
  refine forIn_guard_then PyErr.invalidStack (fun v => (List.range T).all fun t =>
    (List.range S).all fun s => cellOk files pos S T v t s) _ _ _ fun v _ _ => ?_
  refine forIn_guard_then PyErr.invalidStack (fun t => (List.range S).all fun s =>
    cellOk files pos S T v t s) _ _ _ fun t _ _ => ?_
  refine forIn_guard_then PyErr.invalidStack (fun s => cellOk files pos S T v t s) _ _ _
    fun s _ _ => ?_
  simp only [cellOk, throw_bind', bne]
  exact guard_then fun _ => guard_pure

/-! ### the cell-wise check is the block-wise acceptance test of the model -/

theorem chunks_all (n : Nat) (Q : List α → Bool) (k : Nat) (l : List α) :
    (chunks n k l).all Q = (List.range k).all fun b => Q ((l.drop (b * n)).take n) := by
  rw [chunks_eq_map, List.all_map]
  rfl

theorem range_all_iff (k : Nat) (P : Nat → Bool) :
    (List.range k).all P = true ↔ ∀ i, i < k → P i = true := by
  simp [List.all_eq_true, List.mem_range]

theorem eq_iff_getElem?_lt {a b : List α} {n : Nat} (ha : a.length = n) (hb : b.length = n) :
    a = b ↔ ∀ j, j < n → a[j]? = b[j]? := by
  refine ⟨fun h _ _ => h ▸ rfl, fun h => List.ext_getElem? fun j => ?_⟩
  by_cases hj : j < n
  · exact h j hj
  · rw [List.getElem?_eq_none (by omega), List.getElem?_eq_none (by omega)]

theorem allSameV_iff (b : List F) :
    allSameV b = true ↔ ∀ j, j < b.length → (b[j]?.map (·.v)) = (b[0]?.map (·.v)) := by
  cases b with
  | nil => simp [allSameV]
  | cons x xs =>
    simp only [allSameV, List.all_eq_true, beq_iff_eq, List.length_cons, List.getElem?_cons_zero,
      Option.map_some]
    constructor
    · intro h j hj
      cases j with
      | zero => rfl
      | succ j =>
        have hj' : j < xs.length := Nat.lt_of_succ_lt_succ hj
        rw [List.getElem?_cons_succ, List.getElem?_eq_getElem hj', Option.map_some,
          h _ (List.getElem_mem hj')]
    · intro h y hy
      obtain ⟨i, hi, rfl⟩ := List.getElem_of_mem hy
      have := h (i + 1) (Nat.succ_lt_succ hi)
      rwa [List.getElem?_cons_succ, List.getElem?_eq_getElem hi, Option.map_some,
        Option.some.injEq] at this

theorem blockA_iff (sorted : List F) (n k : Nat) (hlen : sorted.length = n * k) :
    (chunks n k sorted).all allSameV = true ↔
      ∀ b, b < k → ∀ j, j < n → (sorted[b * n + j]?.map (·.v)) = (sorted[b * n]?.map (·.v)) := by
  rw [chunks_all, range_all_iff]
  refine forall_congr' fun b => imp_congr_right fun hb => ?_
  rw [allSameV_iff, length_take_drop hlen hb]
  refine forall_congr' fun j => imp_congr_right fun hj => ?_
  rw [getElem?_drop_take _ _ _ _ hj, getElem?_drop_take _ _ _ _ (by omega : 0 < n), Nat.add_zero]

theorem blockB_iff (sorted : List F) (pos : List Int) (n k : Nat) (hlen : sorted.length = n * k)
    (hpos : pos.length = n) :
    (chunks n k sorted).all (fun b => b.map (·.p) == pos) = true ↔
      ∀ b, b < k → ∀ s, s < n → (sorted[b * n + s]?.map (·.p)) = pos[s]? := by
  rw [chunks_all, range_all_iff]
  refine forall_congr' fun b => imp_congr_right fun hb => ?_
  rw [beq_iff_eq, eq_iff_getElem?_lt ((List.length_map _).trans (length_take_drop hlen hb)) hpos]
  refine forall_congr' fun s => imp_congr_right fun hs => ?_
  rw [List.getElem?_map, getElem?_drop_take _ _ _ _ hs]

/-- the test at one cell, with the cell's index written as position `t * S + s` of vector block `v`
    and as position `s` of volume `v * T + t` -/
theorem cellOk_iff (sorted : List F) (pos : List Int) (S T V v t s : Nat)
    (hlen : sorted.length = S * T * V) (hpos : pos.length = S) (hv : v < V) (ht : t < T) (hs : s < S) :
    cellOk (sorted.map key) pos S T v t s = true ↔
      (sorted[v * (T * S) + (t * S + s)]?.map (·.v)) = (sorted[v * (T * S)]?.map (·.v)) ∧
      (sorted[(v * T + t) * S + s]?.map (·.p)) = pos[s]? := by
  have hi : v * T * S + t * S + s < sorted.length := by
    have := idx_lt (idx_lt hv ht) hs
    rwa [hlen, Nat.mul_comm S T, Nat.mul_comm (T * S) V, ← Nat.mul_assoc, ← Nat.add_mul]
  have h0 : v * T * S < sorted.length := by omega
  have hs' : s < pos.length := by omega
  rw [← Nat.mul_assoc, ← Nat.add_assoc, Nat.add_mul]
  simp [cellOk, key, hi, h0, hs']

/-- **the cell-wise condition of the translated `_chk_order` loop is the two order conjuncts of the
    model's acceptance test** (block-wise: every vector block constant, every volume lists the sorted
    distinct positions), for a sorted list of S·T·V files -/
theorem cells_eq_chunks (sorted : List F) (pos : List Int) (S T V : Nat)
    (hlen : sorted.length = S * T * V) (hpos : pos.length = S) :
    ((List.range V).all fun v => (List.range T).all fun t => (List.range S).all fun s =>
        cellOk (sorted.map key) pos S T v t s) =
      ((chunks (T * S) V sorted).all allSameV &&
       (chunks S (T * V) sorted).all (fun b => b.map (·.p) == pos)) := by
  have hc := cellOk_iff sorted pos S T V
  rw [Bool.eq_iff_iff, Bool.and_eq_true,
    blockA_iff sorted (T * S) V (by rw [hlen, Nat.mul_comm S T]),
    blockB_iff sorted pos S (T * V) (by rw [hlen, Nat.mul_assoc]) hpos, Nat.mul_comm T V]
  -- a position in a vector block is a time and a slice; a volume is a vector value and a time
  simp only [range_all_iff, forall_lt_mul T S, forall_lt_mul V T]
  exact ⟨fun h => ⟨fun v hv t ht s hs => ((hc v t s hlen hpos hv ht hs).mp (h v hv t ht s hs)).1,
      fun v hv t ht s hs => ((hc v t s hlen hpos hv ht hs).mp (h v hv t ht s hs)).2⟩,
    fun ⟨hA, hB⟩ v hv t ht s hs =>
      (hc v t s hlen hpos hv ht hs).mpr ⟨hA v hv t ht s hs, hB v hv t ht s hs⟩⟩

/-- **the model's acceptance test is what the translated Python does**: `get_shape`'s count checks
    followed by `_chk_order`'s thorough check on the list the two sorts produce succeed exactly when
    the model's `acceptB` holds, with the model's dimensions — for every list of files -/
theorem source_accepts_iff (spacingOk : List Int → Bool) (files : List F) :
    acceptB spacingOk files = true ↔
      Py.get_shape_counts files.length (dimS files) (dimV files)
          (spacingOk (distinctSorted (files.map (·.p)))) = .ok (dimS files, dimT files, dimV files) ∧
      Py.chk_order_check ((chkSort (dimS files) (files.length / dimS files) files).map key)
          (distinctSorted (files.map (·.p))) (dimS files) (dimT files) (dimV files) = .ok () := by
  rw [acceptB_counts, Bool.and_assoc, Bool.and_eq_true, get_shape_counts_eq, chk_order_check_eq]
  unfold dimT
  rw [ite_ok_iff, ite_ok_iff]
  refine and_congr_right fun hc => ?_
  -- the counts give the length of the list, which the cell-wise reading of the blocks needs
  simp only [countsOk, Bool.and_eq_true, decide_eq_true_eq] at hc
  have hn := count_factors hc.1.1.2 hc.2
  have hvols := Nat.div_mul_cancel (Nat.dvd_of_mod_eq_zero hc.2)
  rw [cells_eq_chunks _ _ _ _ _ ((chkSort_perm _ _ files
    (by rw [← hvols, ← Nat.mul_assoc]; exact hn)).length_eq.trans hn) rfl, hvols]

end Src
