import DcmVerif.Proofs.CodeLemmas
/-! The per-key view of the classification dictionaries (`KeyDict`, generated prelude) against the model's `KeyState`. -/
set_option autoImplicit false

namespace Src
variable {α κ : Type}

/-- a key state as the classification dictionaries see it: no class, or exactly one, holds the key -/
def toDict : KeyState α → KeyDict α
  | none => []
  | some (c, v) => [(c, v)]

theorem valuesAndClass_nil (valid : List Cls) : KeyDict.valuesAndClass valid ([] : KeyDict α) = none := by
  simp [KeyDict.valuesAndClass]

theorem valuesAndClass_single (valid : List Cls) (c : Cls) (v : List α) (h : c ∈ valid) :
    KeyDict.valuesAndClass valid [(c, v)] = some (c, v) := by
  induction valid with
  | nil => cases h
  | cons x xs ih =>
    by_cases hx : c = x
    · simp [KeyDict.valuesAndClass, hx]
    · simpa [KeyDict.valuesAndClass, hx] using ih (by simpa [hx] using h)

theorem valuesAndClass_toDict {valid : List Cls} {ks : KeyState α} (h : ∀ c v, ks = some (c, v) → c ∈ valid) :
    KeyDict.valuesAndClass valid (toDict ks) = ks := by
  rcases ks with _ | ⟨c, v⟩
  · exact valuesAndClass_nil valid
  · exact valuesAndClass_single valid c v (h c v rfl)

theorem set_single (c : Cls) (v w : List α) : KeyDict.set [(c, v)] c w = [(c, w)] := by
  simp [KeyDict.set]

theorem get_single (c : Cls) (v : List α) : KeyDict.get [(c, v)] c = .ok v := by
  simp [KeyDict.get]

theorem del_single (c : Cls) (v : List α) : KeyDict.del [(c, v)] c = .ok [] := by
  simp [KeyDict.del]

theorem set_del_single {c d : Cls} (h : c ≠ d) (v w : List α) : (KeyDict.set [(c, v)] d w).del c = .ok [(d, w)] := by
  simp [KeyDict.set, KeyDict.del, h, Ne.symm h]

end Src
