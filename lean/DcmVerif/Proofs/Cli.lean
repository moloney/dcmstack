import DcmVerif.Model.Cli
import DcmVerif.Proofs.Filter
import DcmVerif.Proofs.Ext
/-! C19: no hidden state, filter composition, unique names, injection. -/
set_option autoImplicit false
open Cls

namespace Cli

/-- the source does not alias the module default lists (translator flag) -/
theorem cli_no_alias : Gen.cliAliasesDefaults = false := by decide

theorem filterLists_no_alias (g : Globals) (a : Args) :
    filterLists false g a = (g, (g.excl ++ a.extraExcl, g.incl ++ a.extraIncl)) := rfl

/-- **no hidden state:** an invocation leaves the module defaults as they were -/
theorem cli_stateless (g : Globals) (a : Args) : (mainFilterLists g a).1 = g := by
  rw [mainFilterLists, cli_no_alias, filterLists_no_alias]

theorem runSeq_no_alias (g : Globals) (as : List Args) :
    runSeq false g as = as.map fun a => (g.excl ++ a.extraExcl, g.incl ++ a.extraIncl) := by
  induction as with
  | nil => rfl
  | cons a as ih => simp [runSeq, filterLists_no_alias, ih]

/-- **the i-th output of any invocation sequence depends only on its own arguments** -/
theorem cli_seq_independent (g : Globals) (as : List Args) :
    runSeq Gen.cliAliasesDefaults g as =
      as.map fun a => (g.excl ++ a.extraExcl, g.incl ++ a.extraIncl) := by
  rw [cli_no_alias]; exact runSeq_no_alias g as

/-- with aliasing the second invocation still filters with the first one's patterns (what the
    code did before the repair) -/
theorem alias_leaks :
    runSeq true ⟨["Patient"], []⟩ [⟨["Echo"], []⟩, ⟨[], []⟩] =
      [(["Patient", "Echo"], []), (["Patient", "Echo"], [])] := by decide

/-- the filter of an invocation is exclude-unless-included over defaults plus extras -/
theorem cli_filter_is_exclude_unless_included (a : Args) (k : String) :
    Flt.cliFilter a.extraExcl a.extraIncl k = true ↔
      (∃ e ∈ Gen.defaultExcl ++ a.extraExcl, Flt.matchLit e k = true) ∧
        ¬ ∃ i ∈ Gen.defaultIncl ++ a.extraIncl, Flt.matchLit i k = true :=
  Flt.cliFilter_iff a.extraExcl a.extraIncl k

/-! ### the output names of `dcmstack_cli` -/

theorem pickFree_not_mem (fmt : Nat → String) (gen : List String) (name : String) :
    ∀ (fuel idx : Nat) (c : String), pickFree fmt gen name fuel idx = some c → c ∉ gen := by
  intro fuel
  induction fuel with
  | zero => intro idx c h; cases h
  | succ n ih =>
    intro idx c h
    unfold pickFree at h
    split at h
    · exact ih _ _ h
    · next hm => cases h; simpa using hm

theorem outNames_cons (fmt : Nat → String) (n : String) (ns gen : List String) (idx : Nat)
    (out : List String) (h : outNames fmt (n :: ns) gen idx = some out) :
    ∃ c rest, c ∉ gen ∧ outNames fmt ns (c :: gen) (idx + 1) = some rest ∧ out = c :: rest := by
  simp only [outNames] at h
  split at h
  · cases h
  · next c hc =>
    obtain ⟨rest, hr, rfl⟩ := Option.map_eq_some_iff.mp h
    refine ⟨c, rest, ?_, hr, rfl⟩
    split at hc
    · exact pickFree_not_mem fmt gen n _ _ c hc
    · next hm => cases hc; simpa using hm

/-- **output names are unique:** whatever the natural names of the groups are (also when one
    already ends in a suffix) no name is used twice -/
theorem names_unique (fmt : Nat → String) (ns : List String) :
    ∀ (gen : List String) (idx : Nat) (out : List String), outNames fmt ns gen idx = some out →
      out.Nodup ∧ ∀ c ∈ out, c ∉ gen := by
  induction ns with
  | nil => intro gen idx out h; cases h; simp
  | cons n ns ih =>
    intro gen idx out h
    obtain ⟨c, rest, hc, hr, rfl⟩ := outNames_cons fmt n ns gen idx out h
    -- the later names avoid `c :: gen`
    obtain ⟨hnd, hnm⟩ := ih _ _ _ hr
    refine ⟨List.nodup_cons.mpr ⟨fun hin => hnm c hin (by simp), hnd⟩, ?_⟩
    intro x hx
    rcases List.mem_cons.mp hx with rfl | hx
    · exact hc
    · exact fun hg => hnm x hx (by simp [hg])

/-- one name per group, in group order -/
theorem names_length (fmt : Nat → String) (ns : List String) :
    ∀ (gen : List String) (idx : Nat) (out : List String), outNames fmt ns gen idx = some out →
      out.length = ns.length := by
  induction ns with
  | nil => intro gen idx out h; cases h; rfl
  | cons n ns ih =>
    intro gen idx out h
    obtain ⟨c, rest, -, hr, rfl⟩ := outNames_cons fmt n ns gen idx out h
    simp [ih _ _ _ hr]

/-- the old rule (append the suffix once, without re-checking) reuses a name: kernel-checked
    witness of finding F21 for the names `x-002`, `x`, `x` -/
theorem old_rule_clashes :
    let names := ["x-002", "x", "x"]
    let fmt := fun (i : Nat) => "00" ++ toString i
    let old := fun (acc : List String × Nat) (n : String) =>
      let c := if acc.1.contains n then suffixed fmt n acc.2 else n
      (acc.1 ++ [c], acc.2 + 1)
    (names.foldl old ([], 0)).1 = ["x-002", "x", "x-002"] := by decide

section inject
variable {κ α : Type} [DecidableEq κ] [DecidableEq α]

theorem inject_eq (e : DExt κ α) (cls : Cls) (key : κ) (vals : List α) (force : Bool) :
    inject e cls key vals force =
      if cls ∈ validClasses e.shp ∧ vals.length = mult e.shp cls ∧
          (e.ents.any (fun x => x.1 == key) = true → force = true) then
        .ok { e with ents := (e.ents.filter fun x => !(x.1 == key)) ++ [(key, cls, vals)] }
      else .rc 1 := by
  unfold inject
  by_cases h1 : cls ∈ validClasses e.shp
  · by_cases h2 : vals.length = mult e.shp cls
    · by_cases h3 : e.ents.any (fun x => x.1 == key) = true
      · cases force <;> simp [h1, h2, h3]
      · -- no entry has the key: filtering removes nothing
        have : e.ents.filter (fun x => !(x.1 == key)) = e.ents :=
          List.filter_eq_self.mpr fun x hx => by
            simpa using fun hk => h3 (List.any_eq_true.mpr ⟨x, hx, hk⟩)
        simp [h1, h2, h3, this]
    · simp [h1, h2]
  · simp [h1]

/-- **inject refuses** an invalid classification, a wrong number of values, and an existing key
    without `-f` (exit code 1, nothing written) -/
theorem inject_refuses (e : DExt κ α) (cls : Cls) (key : κ) (vals : List α) (force : Bool)
    (h : cls ∉ validClasses e.shp ∨ vals.length ≠ mult e.shp cls ∨
         (e.ents.any (fun x => x.1 == key) = true ∧ force = false)) :
    inject e cls key vals force = .rc 1 := by
  rw [inject_eq, if_neg]
  rintro ⟨h1, h2, h3⟩
  rcases h with h | h | ⟨h4, h5⟩
  · exact h h1
  · exact h h2
  · rw [h3 h4] at h5; cases h5

/-- **inject adds exactly the given values under the given key and leaves every other key alone** -/
theorem inject_only_key (e r : DExt κ α) (cls : Cls) (key : κ) (vals : List α) (force : Bool)
    (h : inject e cls key vals force = .ok r) :
    (key, cls, vals) ∈ r.ents ∧
    (∀ x, x.1 ≠ key → (x ∈ r.ents ↔ x ∈ e.ents)) ∧
    (∀ x ∈ r.ents, x.1 = key → x = (key, cls, vals)) ∧
    r.shape = e.shape ∧ r.sliceDim = e.sliceDim := by
  rw [inject_eq] at h
  split at h
  · cases h
    refine ⟨by simp, fun x hx => ?_, fun x hx hk => ?_, rfl, rfl⟩
    · simp only [List.mem_append, List.mem_filter, List.mem_singleton]
      constructor
      · rintro (⟨hm, _⟩ | rfl)
        · exact hm
        · exact absurd rfl hx
      · exact fun hm => .inl ⟨hm, by simpa using hx⟩
    · simp only [List.mem_append, List.mem_filter, List.mem_singleton] at hx
      rcases hx with ⟨_, hne⟩ | rfl
      · simp [hk] at hne
      · rfl
  · cases h

omit [DecidableEq α] in
theorem validB_snoc (e : DExt κ α) (key : κ) (cls : Cls) (vals : List α) (hv : e.validB = true)
    (hc : cls ∈ validClasses e.shp) (hl : vals.length = mult e.shp cls)
    (hk : key ∉ e.ents.map (·.1)) :
    ({ e with ents := e.ents ++ [(key, cls, vals)] } : DExt κ α).validB = true := by
  simp only [DExt.validB, Bool.and_eq_true, List.all_eq_true, decide_eq_true_eq, beq_iff_eq] at hv ⊢
  refine ⟨fun x hx => ?_, ?_⟩
  · rcases List.mem_append.mp hx with hx | hx
    · exact hv.1 x hx
    · rw [List.mem_singleton.mp hx]
      refine ⟨hc, ?_⟩
      -- a constant holds one value, which is its multiplicity
      split
      · next hg => rw [hl, show cls = gconst from hg]; rfl
      · exact hl
  · rw [List.map_append, List.nodup_append]
    refine ⟨hv.2, by simp, fun a ha b hb => ?_⟩
    rw [List.mem_singleton.mp hb]
    exact fun (h : a = key) => hk (h ▸ ha)

/-- **inject keeps the extension valid**: the new entry sits in a valid class with the right count
    (a constant has one value; a varying class of multiplicity 1 holds a one-element list) -/
theorem inject_valid (e r : DExt κ α) (cls : Cls) (key : κ) (vals : List α) (force : Bool)
    (hv : e.validB = true) (h : inject e cls key vals force = .ok r) : r.validB = true := by
  rw [inject_eq] at h
  split at h
  · next hc =>
    cases h
    -- the extension without the key, which is valid, gets an entry under that key
    refine validB_snoc (e.filterMeta (· == key)) key cls vals (DExt.filterMeta_validB e _ hv) hc.1 hc.2.1
      fun hk => ?_
    simpa using ((DExt.filterMeta_keys e _ key).mp hk).2
  · cases h

end inject
end Cli
