import DcmVerif.Proofs.Total
import DcmVerif.Proofs.GridComplete
/-! C01: the stack model (canonical order, per-volume reversal) composed with the per-key merge
pipeline. -/
set_option autoImplicit false

namespace Total
variable {α : Type} [DecidableEq α]
open Stk

/-- **C01, end to end (model level):** take the files of a complete grid (vector ordinates `vs`,
    time ordinates `ts`, slice positions `ps`), added in any order, each carrying a value (or not)
    for one key.  `to_nifti` sorts them (`_chk_order`), reverses every volume's files when the
    requested voxel order flips the slice axis, and merges the per-file extensions volume by volume,
    then along time, then along the vector axis.  All of that succeeds, and the embedded summary
    returns at output slice `k`, time `t`, vector `v` the value of the file whose pixels
    `get_data` + the flip put at that output position: slice `k` of the canonical order, or
    `S − 1 − k` when flipped. -/
theorem convert_end_to_end (null : α) (idOf : Int → Int → Int → Nat) (vs ts ps : List Int)
    (hv : vs.Pairwise (· < ·)) (ht : ts.Pairwise (· < ·)) (hp : ps.Pairwise (· < ·))
    (hS : 0 < ps.length) (hT : 2 ≤ ts.length) (hV : 2 ≤ vs.length)
    (files : List F) (hperm : files.Perm (grid idOf vs ts ps))
    (metaOf : Nat → Option α) (flip : Bool) :
    let S := ps.length
    let T := ts.length
    let V := vs.length
    let canon := chkSort S (V * T) files
    let order := if flip then reverseBlocks S (T * V) canon else canon
    let valAt := fun s t v => (order[(t + T * v) * S + s]?).bind fun f => metaOf f.id
    ∃ (vol : Nat → Nat → KeyState α) (vec : Nat → KeyState α) (r : KeyState α),
      (∀ t v, t < T → v < V →
        mergeSliceK null ⟨3, 1, 1, 1, true, false, false⟩
          ((List.range S).map fun s => fileKS (valAt s t v)) = .ok (vol t v)) ∧
      (∀ v, v < V →
        mergeTimeK null ⟨4, S, 1, 1, true, true, false⟩ ⟨3, S, 1, 1, true, false, false⟩
          ((List.range T).map fun t => vol t v) = .ok (vec v)) ∧
      mergeVecK null ⟨5, S, T, 1, true, true, true⟩ ⟨4, S, T, 1, true, true, false⟩
          ((List.range V).map vec) = .ok r ∧
      ∀ k t v, k < S → t < T → v < V →
        lookupKS null ⟨5, S, T, V, true, true, true⟩ r k t v =
          some ((metaOf (idOf (vs.getD v 0) (ts.getD t 0)
                  (ps.getD (if flip then S - 1 - k else k) 0))).getD null) := by
  intro S T V canon order valAt
  obtain ⟨vol, vec, r, h1, h2, h3, h4⟩ := convert_total null S T V hS hT hV valAt
  refine ⟨vol, vec, r, h1, h2, h3, ?_⟩
  intro k t v hk htt hvv
  rw [h4 k t v hk htt hvv]
  congr 1
  -- what file sits at block (t + T v), position k of the order used for the metadata
  have hcanon : canon = grid idOf vs ts ps := accept_complete_order idOf vs ts ps hv ht hp files hperm
  have hglen : (grid idOf vs ts ps).length = S * (T * V) := by
    rw [grid_length]; show ps.length * (vs.length * ts.length) = _
    rw [Nat.mul_comm vs.length]
  have hidx : (t + T * v) * S + k = fileIdx S T k t v := by
    rw [fileIdx, Nat.add_mul, Nat.mul_comm T v, Nat.mul_assoc, Nat.add_comm (t * S)]
  show ((order[(t + T * v) * S + k]?).bind fun f => metaOf f.id).getD null = _
  cases flip with
  | false =>
    simp only [order, Bool.false_eq_true, if_false, hcanon]
    rw [hidx, grid_getD idOf vs ts ps k t v hk htt hvv]
    rfl
  | true =>
    have hk' : S - 1 - k < S := Nat.lt_of_le_of_lt (Nat.sub_le _ _) (Nat.sub_lt hS Nat.one_pos)
    simp only [order, if_true, hcanon]
    rw [meta_follows_flipped_data S T V _ hglen k t v hk htt hvv,
      grid_getD idOf vs ts ps (S - 1 - k) t v hk' htt hvv]
    rfl

end Total
