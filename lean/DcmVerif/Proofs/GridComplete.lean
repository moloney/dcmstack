import DcmVerif.Proofs.Grid
/-! C11, completeness direction: a complete regular grid is never rejected, whatever the order
in which its files were added. -/
set_option autoImplicit false

namespace Stk

/-! ### `sorted(set(values))` -/

theorem mem_insertDistinct (x y : Int) (l : List Int) :
    y ∈ insertDistinct x l ↔ y = x ∨ y ∈ l := by
  induction l with
  | nil => simp [insertDistinct]
  | cons z zs ih =>
    unfold insertDistinct
    split
    · exact List.mem_cons
    · split
      · next h => subst h; simp only [List.mem_cons, or_self_left]
      · simp only [List.mem_cons, ih, or_left_comm]

theorem mem_distinctSorted (y : Int) (l : List Int) : y ∈ distinctSorted l ↔ y ∈ l := by
  induction l with
  | nil => simp [distinctSorted]
  | cons x xs ih => simp [distinctSorted, mem_insertDistinct, ih]

theorem insertDistinct_sorted (x : Int) (l : List Int) (h : l.Pairwise (· < ·)) :
    (insertDistinct x l).Pairwise (· < ·) := by
  induction l with
  | nil => exact List.pairwise_singleton _ _
  | cons z zs ih =>
    obtain ⟨hz, hzs⟩ := List.pairwise_cons.mp h
    unfold insertDistinct
    split
    · next h1 =>
      refine List.Pairwise.cons (fun b hb => ?_) h
      rcases List.mem_cons.mp hb with rfl | hb
      · exact h1
      · exact Int.lt_trans h1 (hz b hb)
    · split
      · exact h
      · refine List.Pairwise.cons (fun b hb => ?_) (ih hzs)
        rcases (mem_insertDistinct x b zs).mp hb with rfl | hb
        · omega
        · exact hz b hb

theorem distinctSorted_sorted (l : List Int) : (distinctSorted l).Pairwise (· < ·) := by
  induction l with
  | nil => exact List.Pairwise.nil
  | cons x xs ih => exact insertDistinct_sorted x _ ih

theorem sorted_ext (l₁ l₂ : List Int) (h₁ : l₁.Pairwise (· < ·)) (h₂ : l₂.Pairwise (· < ·))
    (hm : ∀ a, a ∈ l₁ ↔ a ∈ l₂) : l₁ = l₂ :=
  List.Perm.eq_of_pairwise (fun _ _ _ _ h h' => absurd h' (Int.lt_asymm h)) h₁ h₂
    ((List.perm_ext_iff_of_nodup (h₁.imp Int.ne_of_lt) (h₂.imp Int.ne_of_lt)).mpr hm)

theorem distinctSorted_eq (l ps : List Int) (hp : ps.Pairwise (· < ·)) (hm : ∀ a, a ∈ l ↔ a ∈ ps) :
    distinctSorted l = ps :=
  sorted_ext _ _ (distinctSorted_sorted l) hp (fun a => by rw [mem_distinctSorted, hm])

/-! ### the grid -/

def mk (idOf : Int → Int → Int → Nat) (v t p : Int) : F := ⟨v, t, p, idOf v t p⟩

def volBlock (idOf : Int → Int → Int → Nat) (ps : List Int) (v t : Int) : List F := ps.map (mk idOf v t)

def gridBlocks (idOf : Int → Int → Int → Nat) (vs ts ps : List Int) : List (List F) :=
  vs.flatMap fun v => ts.map fun t => volBlock idOf ps v t

/-- the complete grid in canonical order -/
def grid (idOf : Int → Int → Int → Nat) (vs ts ps : List Int) : List F :=
  (gridBlocks idOf vs ts ps).flatten

section grid
variable (idOf : Int → Int → Int → Nat) (vs ts ps : List Int)

theorem grid_eq_vecBlocks :
    grid idOf vs ts ps = (vs.map fun v => (ts.map fun t => volBlock idOf ps v t).flatten).flatten := by
  simp only [grid, gridBlocks, List.flatMap_def, List.flatten_flatten, List.map_map,
    Function.comp_def]

theorem grid_eq_flatMap :
    grid idOf vs ts ps = vs.flatMap fun v => ts.flatMap fun t => ps.map (mk idOf v t) := by
  simp only [grid_eq_vecBlocks, volBlock, List.flatMap_def]

theorem mem_volBlock (v t : Int) (f : F) :
    f ∈ volBlock idOf ps v t ↔ ∃ p, p ∈ ps ∧ mk idOf v t p = f :=
  List.mem_map

theorem mem_gridBlocks (b : List F) :
    b ∈ gridBlocks idOf vs ts ps ↔ ∃ v, v ∈ vs ∧ ∃ t, t ∈ ts ∧ volBlock idOf ps v t = b := by
  simp only [gridBlocks, List.mem_flatMap, List.mem_map]

theorem mem_grid (f : F) :
    f ∈ grid idOf vs ts ps ↔ ∃ v, v ∈ vs ∧ ∃ t, t ∈ ts ∧ ∃ p, p ∈ ps ∧ mk idOf v t p = f := by
  simp only [grid_eq_flatMap, List.mem_flatMap, List.mem_map]

theorem gridBlocks_length : (gridBlocks idOf vs ts ps).length = vs.length * ts.length := by
  rw [gridBlocks, List.flatMap_def, length_flatten_const ts.length, List.length_map]
  exact List.forall_mem_map.mpr fun _ _ => List.length_map _

theorem gridBlocks_block_length : ∀ b ∈ gridBlocks idOf vs ts ps, b.length = ps.length := by
  intro b hb
  obtain ⟨v, _, t, _, rfl⟩ := (mem_gridBlocks idOf vs ts ps b).mp hb
  exact List.length_map _

theorem grid_length : (grid idOf vs ts ps).length = ps.length * (vs.length * ts.length) := by
  rw [grid, length_flatten_const ps.length _ (gridBlocks_block_length idOf vs ts ps),
    gridBlocks_length, Nat.mul_comm]

theorem grid_distinctKeys : DistinctKeys (grid idOf vs ts ps) := by
  intro a b ha hb hk
  obtain ⟨v, _, t, _, p, _, rfl⟩ := (mem_grid idOf vs ts ps a).mp ha
  obtain ⟨v', _, t', _, p', _, rfl⟩ := (mem_grid idOf vs ts ps b).mp hb
  simp only [key, mk, Prod.mk.injEq] at hk
  obtain ⟨rfl, rfl, rfl⟩ := hk
  rfl

variable (hv : vs.Pairwise (· < ·)) (ht : ts.Pairwise (· < ·)) (hp : ps.Pairwise (· < ·))
include hp

theorem volBlock_isort (v t : Int) : isort posLE (volBlock idOf ps v t) = volBlock idOf ps v t := by
  refine isort_of_sorted posLE posLE_total posLE_trans _
    (List.pairwise_map.mpr (hp.imp fun h => (posLE_iff _ _).mpr (Int.le_of_lt h))) ?_
  intro a b ha hb h1 h2
  obtain ⟨p, _, rfl⟩ := (mem_volBlock idOf ps v t a).mp ha
  obtain ⟨p', _, rfl⟩ := (mem_volBlock idOf ps v t b).mp hb
  obtain rfl : p = p' := Int.le_antisymm ((posLE_iff _ _).mp h1) ((posLE_iff _ _).mp h2)
  rfl

include hv ht

/-- one level of the tuple order for each of the three nested runs -/
theorem grid_sorted : (grid idOf vs ts ps).Pairwise (fun a b => lexLE a b = true) := by
  rw [grid_eq_flatMap, List.pairwise_flatMap]
  refine ⟨fun v _ => ?_, hv.imp fun {v v'} hvv x hx y hy => ?_⟩
  · rw [List.pairwise_flatMap]
    refine ⟨fun t _ => ?_, ht.imp fun {t t'} htt x hx y hy => ?_⟩
    · rw [List.pairwise_map]
      exact hp.imp fun {p p'} h =>
        (lexLE_iff (mk idOf v t p) (mk idOf v t p')).mpr (.inr ⟨rfl, .inr ⟨rfl, Int.le_of_lt h⟩⟩)
    · obtain ⟨p, _, rfl⟩ := List.mem_map.mp hx
      obtain ⟨p', _, rfl⟩ := List.mem_map.mp hy
      exact (lexLE_iff _ _).mpr (.inr ⟨rfl, .inl htt⟩)
  · obtain ⟨t, _, hx⟩ := List.mem_flatMap.mp hx
    obtain ⟨t', _, hy⟩ := List.mem_flatMap.mp hy
    obtain ⟨p, _, rfl⟩ := List.mem_map.mp hx
    obtain ⟨p', _, rfl⟩ := List.mem_map.mp hy
    exact (lexLE_iff _ _).mpr (.inl hvv)

theorem chkSort_grid :
    chkSort ps.length (vs.length * ts.length) (grid idOf vs ts ps) = grid idOf vs ts ps := by
  rw [chkSort, isort_of_sorted lexLE lexLE_total lexLE_trans _ (grid_sorted idOf vs ts ps hv ht hp)
    (grid_distinctKeys idOf vs ts ps).antisymm]
  conv => lhs; rw [grid, chunks_flatten_blocks ps.length _ _
    (gridBlocks_block_length idOf vs ts ps) (gridBlocks_length idOf vs ts ps)]
  rw [List.map_congr_left (g := id), List.map_id, grid]
  intro b hb
  obtain ⟨v, _, t, _, rfl⟩ := (mem_gridBlocks idOf vs ts ps b).mp hb
  exact volBlock_isort idOf ps hp v t

end grid

/-- **the canonical order is the grid:** position `fileIdx s t v` holds the file with the `v`-th
    vector ordinate, the `t`-th time ordinate and the `s`-th slice position -/
theorem grid_getElem? (idOf : Int → Int → Int → Nat) (vs ts ps : List Int) (s t v : Nat)
    (hs : s < ps.length) (ht : t < ts.length) (hv : v < vs.length) :
    (grid idOf vs ts ps)[fileIdx ps.length ts.length s t v]? =
      some (mk idOf (vs[v]'hv) (ts[t]'ht) (ps[s]'hs)) := by
  have hvt : v * ts.length + t < (gridBlocks idOf vs ts ps).length := by
    rw [gridBlocks_length]; exact idx_lt hv ht
  rw [show fileIdx ps.length ts.length s t v = (v * ts.length + t) * ps.length + s by
      rw [fileIdx, Nat.add_mul, Nat.mul_assoc],
    grid, flatten_getElem? ps.length _ (gridBlocks_block_length idOf vs ts ps) _ s hvt hs,
    gridBlocks, List.flatMap_def, flatten_getElem? ts.length _
      (List.forall_mem_map.mpr fun _ _ => List.length_map _)
      v t (by rw [List.length_map]; exact hv) ht]
  simp [volBlock, List.getElem?_eq_getElem hv, List.getElem?_eq_getElem ht,
    List.getElem?_eq_getElem hs]

theorem grid_getD (idOf : Int → Int → Int → Nat) (vs ts ps : List Int) (s t v : Nat)
    (hs : s < ps.length) (ht : t < ts.length) (hv : v < vs.length) :
    (grid idOf vs ts ps)[fileIdx ps.length ts.length s t v]? =
      some (mk idOf (vs.getD v 0) (ts.getD t 0) (ps.getD s 0)) := by
  rw [grid_getElem? idOf vs ts ps s t v hs ht hv]
  simp [List.getD_eq_getElem?_getD, List.getElem?_eq_getElem hv, List.getElem?_eq_getElem ht,
    List.getElem?_eq_getElem hs]

/-- the files of a complete grid, added in any order, are converted in the canonical grid order -/
theorem accept_complete_order (idOf : Int → Int → Int → Nat) (vs ts ps : List Int)
    (hv : vs.Pairwise (· < ·)) (ht : ts.Pairwise (· < ·)) (hp : ps.Pairwise (· < ·))
    (files : List F) (hperm : files.Perm (grid idOf vs ts ps)) :
    chkSort ps.length (vs.length * ts.length) files = grid idOf vs ts ps := by
  rw [chkSort_perm_invariant ps.length (vs.length * ts.length) files (grid idOf vs ts ps) hperm
    (distinctKeys_perm _ _ hperm.symm (grid_distinctKeys idOf vs ts ps))]
  exact chkSort_grid idOf vs ts ps hv ht hp

theorem allSameV_of_forall {b : List F} {v : Int} (h : ∀ x ∈ b, x.v = v) : allSameV b = true := by
  cases b with
  | nil => rfl
  | cons x xs =>
    simp only [allSameV, List.all_eq_true, beq_iff_eq]
    intro y hy
    rw [h y (List.mem_cons_of_mem _ hy), h x List.mem_cons_self]

/-- **C11, completeness:** the files of a complete regular grid — every combination of strictly
    increasing vector ordinates, time ordinates and evenly spaced slice positions exactly once —
    are accepted with shape S × T × V, in whatever order they were added. -/
theorem accept_complete (spacingOk : List Int → Bool) (idOf : Int → Int → Int → Nat)
    (vs ts ps : List Int)
    (hv : vs.Pairwise (· < ·)) (ht : ts.Pairwise (· < ·)) (hp : ps.Pairwise (· < ·))
    (hvne : vs ≠ []) (htne : ts ≠ []) (hpne : ps ≠ [])
    (hsp : ps.length > 1 → spacingOk ps = true)
    (files : List F) (hperm : files.Perm (grid idOf vs ts ps)) :
    getShape spacingOk files = .ok ps.length ts.length vs.length := by
  rw [getShape_ok_iff]
  have hlen : files.length = ps.length * (vs.length * ts.length) := by
    rw [hperm.length_eq, grid_length]
  have hposl : 0 < ps.length := List.length_pos_iff.mpr hpne
  have hvl : 0 < vs.length := List.length_pos_iff.mpr hvne
  have htl : 0 < ts.length := List.length_pos_iff.mpr htne
  obtain ⟨v0, hv0⟩ := List.exists_mem_of_ne_nil vs hvne
  obtain ⟨t0, ht0⟩ := List.exists_mem_of_ne_nil ts htne
  obtain ⟨p0, hp0⟩ := List.exists_mem_of_ne_nil ps hpne
  have hmem : ∀ {f}, f ∈ files ↔ ∃ v, v ∈ vs ∧ ∃ t, t ∈ ts ∧ ∃ p, p ∈ ps ∧ mk idOf v t p = f :=
    hperm.mem_iff.trans (mem_grid idOf vs ts ps _)
  -- the distinct positions and vector values are the grid's: every one occurs, beside `v0 t0 p0`
  have hdp : distinctSorted (files.map (·.p)) = ps := distinctSorted_eq _ ps hp fun a => by
    rw [List.mem_map]
    refine ⟨fun ⟨f, hf, e⟩ => ?_, fun ha => ⟨_, hmem.mpr ⟨v0, hv0, t0, ht0, a, ha, rfl⟩, rfl⟩⟩
    obtain ⟨v, _, t, _, p, hpm, rfl⟩ := hmem.mp hf
    exact e ▸ hpm
  have hdv : distinctSorted (files.map (·.v)) = vs := distinctSorted_eq _ vs hv fun a => by
    rw [List.mem_map]
    refine ⟨fun ⟨f, hf, e⟩ => ?_, fun ha => ⟨_, hmem.mpr ⟨a, ha, t0, ht0, p0, hp0, rfl⟩, rfl⟩⟩
    obtain ⟨v, hvm, t, _, p, _, rfl⟩ := hmem.mp hf
    exact e ▸ hvm
  have hvols : files.length / ps.length = vs.length * ts.length := by
    rw [hlen, Nat.mul_div_cancel_left _ hposl]
  have hsortf := accept_complete_order idOf vs ts ps hv ht hp files hperm
  refine { nonempty := ?_, hS := by rw [hdp], spacing := by rw [hdp]; exact hsp, divS := ?_,
           hV := by rw [hdv], vle := ?_, divV := ?_, hT := ?_, vecOk := ?_, posOk := ?_ }
  · rw [hlen]; exact Nat.ne_of_gt (Nat.mul_pos hposl (Nat.mul_pos hvl htl))
  · rw [hlen]; exact Nat.mul_mod_right _ _
  · rw [hvols]; exact Nat.le_mul_of_pos_right _ htl
  · rw [hvols]; exact Nat.mul_mod_right _ _
  · rw [hvols, Nat.mul_div_cancel_left _ hvl]
  · -- cut into blocks of T · S files the sorted list falls into its vector values
    rw [hvols, hsortf, grid_eq_vecBlocks, chunks_flatten_blocks _ _ _ ?_ (List.length_map _),
      List.all_map, List.all_eq_true]
    · intro v _
      refine allSameV_of_forall (v := v) fun x hx => ?_
      obtain ⟨b, hb, hxb⟩ := List.mem_flatten.mp hx
      obtain ⟨t, _, rfl⟩ := List.mem_map.mp hb
      obtain ⟨p, _, rfl⟩ := (mem_volBlock idOf ps v t x).mp hxb
      rfl
    · refine List.forall_mem_map.mpr fun v _ => ?_
      rw [length_flatten_const ps.length, List.length_map]
      exact List.forall_mem_map.mpr fun _ _ => List.length_map _
  · -- cut into blocks of S files it falls into its volumes
    rw [hvols, hsortf, hdp, grid, chunks_flatten_blocks ps.length _ _
      (gridBlocks_block_length idOf vs ts ps) (gridBlocks_length idOf vs ts ps), List.all_eq_true]
    intro b hb
    obtain ⟨v, _, t, _, rfl⟩ := (mem_gridBlocks idOf vs ts ps b).mp hb
    simp [volBlock, mk, Function.comp_def]

/-- non-vacuity: a 2 × 2 × 1 grid added in a scrambled order -/
example : getShape (spacingOkInt 1 25)
    [⟨0, 1, 10, 3⟩, ⟨0, 0, 0, 0⟩, ⟨0, 1, 0, 2⟩, ⟨0, 0, 10, 1⟩] = .ok 2 2 1 := by decide

end Stk
