import DcmVerif.Proofs.Time
import DcmVerif.Proofs.PhoenixRT
import DcmVerif.Proofs.ListLemmas
/-! C20: the TM conversion for digit strings of any length (`hh`, `hhmm`, `hhmmss[.f…]`), not only by
instances. -/
set_option autoImplicit false

namespace Tm
open Phx

theorem splitAt_append (p : Char → Bool) (s t : Str) (h : ∀ c ∈ s, p c = false)
    (ht : ∀ b r, t = b :: r → p b = true) : splitAt p (s ++ t) = (s, t.tail?) := by
  have h' : ∀ c ∈ s, (!p c) = true := fun c hc => by rw [h c hc]; rfl
  unfold splitAt
  rw [span_eq, List.takeWhile_append_of_pos h', List.dropWhile_append_of_pos h']
  cases t with
  | nil => simp
  | cons b r => simp [ht b r rfl]

def digitsVal (acc : Nat) (s : Str) : Nat := s.foldl (fun a c => a * 10 + digitVal c) acc

theorem digitsNat_digits (s : Str) (acc : Nat) (h : ∀ c ∈ s, isDigit c = true) :
    digitsNat acc s = some (digitsVal acc s) := by
  induction s generalizing acc with
  | nil => rfl
  | cons c cs ih =>
    have hc := h c (by simp)
    simp only [digitsNat, hc, if_true, digitsVal, List.foldl_cons]
    exact ih _ (fun x hx => h x (by simp [hx]))

/-- a digit or `.` is none of the characters that the conversions treat specially -/
theorem plain_facts {c : Char} (h : isDigit c = true ∨ c = '.') :
    isWs c = false ∧ c ≠ ':' ∧ c ≠ 'e' ∧ c ≠ 'E' ∧ c ≠ '-' ∧ c ≠ '+' := by
  have special : ∀ x ∈ [' ', '\t', '\n', '\r', '\x0b', '\x0c', ':', 'e', 'E', '-', '+'],
      ¬ (isDigit x = true ∨ x = '.') := by decide
  have ne := fun x hx (e : c = x) => special x hx (e ▸ h)
  simpa only [isWs, Bool.or_eq_false_iff, decide_eq_false_iff_not, and_assoc, List.forall_mem_cons,
    List.not_mem_nil, false_imp_iff, implies_true, and_true] using ne

theorem strip_noWs (s : Str) (h : ∀ c ∈ s, isWs c = false) : strip s = s := by
  simpa using strip_sandwich [] s [] (by simp) (by simp) (fun x xs e => h x (by simp [e]))
    (fun x xs e => h x (List.mem_reverse.mp (by simp [e])))

theorem dropColons_noColon (s : Str) (h : ∀ c ∈ s, c ≠ ':') : dropColons s = s := by
  unfold dropColons
  rw [List.filter_eq_self]
  intro c hc
  simp [h c hc]

theorem pyIntWs_digits (s : Str) (hne : s ≠ []) (h : ∀ c ∈ s, isDigit c = true) :
    pyIntWs s = some (digitsVal 0 s : Int) := by
  have hval : valOf 10 decDigit s = digitsVal 0 s :=
    List.foldl_rel (r := Eq) rfl fun c hc a b e => by simp [e, decDigit, h c hc]
  rw [pyIntWs, strip_noWs s fun c hc => (plain_facts (.inl (h c hc))).1, ← hval]
  exact pyInt_dec false s hne h

theorem toSec_hh (h1 h2 : Char) (d1 : isDigit h1 = true) (d2 : isDigit h2 = true) :
    toSec [h1, h2] = .ok ((digitVal h1 * 10 + digitVal h2 : Nat) * 3600) none := by
  have hd : ∀ c ∈ [h1, h2], isDigit c = true := by simp [d1, d2]
  unfold toSec
  rw [dropColons_noColon _ fun c hc => (plain_facts (.inl (hd c hc))).2.1]
  simp [pyIntWs_digits [h1, h2] (by simp) hd, digitsVal]

theorem toSec_hhmm (h1 h2 m1 m2 : Char) (rest : Str)
    (d1 : isDigit h1 = true) (d2 : isDigit h2 = true) (d3 : isDigit m1 = true) (d4 : isDigit m2 = true)
    (hr : ∀ c ∈ rest, c ≠ ':') :
    toSec (h1 :: h2 :: m1 :: m2 :: rest) =
      let secs : Int := ((digitVal h1 * 10 + digitVal h2 : Nat) : Int) * 3600 +
        ((digitVal m1 * 10 + digitVal m2 : Nat) : Int) * 60
      if rest = [] then .ok secs none
      else match pyFloatDec rest with
        | none => .valueError
        | some d => .ok secs (some d) := by
  have hh : ∀ c ∈ [h1, h2], isDigit c = true := by simp [d1, d2]
  have hm : ∀ c ∈ [m1, m2], isDigit c = true := by simp [d3, d4]
  have hc : ∀ c ∈ h1 :: h2 :: m1 :: m2 :: rest, c ≠ ':' := by
    have := fun c (h : isDigit c = true) => (plain_facts (.inl h)).2.1
    simpa [this, d1, d2, d3, d4] using hr
  unfold toSec
  rw [dropColons_noColon _ hc]
  simp only [List.take, List.drop, pyIntWs_digits _ (by simp) hh, pyIntWs_digits _ (by simp) hm]
  cases rest with
  | nil => simp [digitsVal]
  | cons x xs =>
    -- the two sides end in the same `match`, compiled separately for `toSec` and for this statement
    cases pyFloatDec (x :: xs) <;> simp [digitsVal]

theorem plain_append {ss t : Str} (hss : ∀ c ∈ ss, isDigit c = true)
    (ht0 : ∀ b r, t = b :: r → b = '.') (ht : ∀ c ∈ t.tail, isDigit c = true) :
    ∀ c ∈ ss ++ t, isDigit c = true ∨ c = '.' := by
  intro c hc
  rcases List.mem_append.mp hc with h | h
  · exact .inl (hss c h)
  · cases t with
    | nil => cases h
    | cons b r =>
      rcases List.mem_cons.mp h with rfl | h
      · exact .inr (ht0 c r rfl)
      · exact .inl (ht c h)

/-- the decimal lexeme `ss` or `ss.ff` is read as `digits(ss ++ ff) / 10^|ff|` -/
theorem pyFloatDec_digits (ss t : Str) (hss : ∀ c ∈ ss, isDigit c = true) (hne : ss ≠ [])
    (ht0 : ∀ b r, t = b :: r → b = '.') (ht : ∀ c ∈ t.tail, isDigit c = true) :
    pyFloatDec (ss ++ t) = some ⟨false, digitsVal 0 (ss ++ t.tail), t.tail.length⟩ := by
  have hp := fun c hc => plain_facts (plain_append hss ht0 ht c hc)
  have hsign : splitSign (ss ++ t) = (false, ss ++ t) :=
    splitSign_signStr false (ss ++ t) fun x xs e => (hp x (by simp [e])).2.2.2.2
  have hE : splitAt (fun c => c == 'e' || c == 'E') (ss ++ t) = (ss ++ t, none) := by
    simpa using splitAt_append _ (ss ++ t) []
      (fun c hc => by simp [(hp c hc).2.2.1, (hp c hc).2.2.2.1]) (by simp)
  have hdot : splitAt (· == '.') (ss ++ t) = (ss, t.tail?) :=
    splitAt_append _ ss t
      (fun c hc => beq_eq_false_iff_ne.mpr fun e => absurd (hss c hc) (by rw [e]; decide))
      (fun b r e => by simp [ht0 b r e])
  have htl : t.tail?.getD [] = t.tail := by cases t <;> rfl
  have hdig : digitsNat 0 (ss ++ t.tail) = some (digitsVal 0 (ss ++ t.tail)) :=
    digitsNat_digits _ 0 fun c hc => (List.mem_append.mp hc).elim (hss c) (ht c)
  unfold pyFloatDec
  simp [strip_noWs _ fun c hc => (hp c hc).1, hsign, hE, hdot, htl, hdig, hne]

/-- **`hhmmss.ffffff` with any number of second / fraction digits** (and `hhmmss` alone): whole
    seconds from the first two pairs of digits, the rest read as the exact decimal
    `digits(ss ++ ff) / 10^|ff|` -/
theorem six_plus (h1 h2 m1 m2 : Char) (ss ff : Str)
    (d1 : isDigit h1 = true) (d2 : isDigit h2 = true) (d3 : isDigit m1 = true) (d4 : isDigit m2 = true)
    (hss : ∀ c ∈ ss, isDigit c = true) (hne : ss ≠ []) (hff : ∀ c ∈ ff, isDigit c = true) :
    toSec (h1 :: h2 :: m1 :: m2 :: (ss ++ '.' :: ff)) =
      .ok (((digitVal h1 * 10 + digitVal h2 : Nat) : Int) * 3600 +
           ((digitVal m1 * 10 + digitVal m2 : Nat) : Int) * 60)
          (some ⟨false, digitsVal 0 (ss ++ ff), ff.length⟩) ∧
    toSec (h1 :: h2 :: m1 :: m2 :: ss) =
      .ok (((digitVal h1 * 10 + digitVal h2 : Nat) : Int) * 3600 +
           ((digitVal m1 * 10 + digitVal m2 : Nat) : Int) * 60)
          (some ⟨false, digitsVal 0 ss, 0⟩) := by
  -- both at once: `t` is `.ff` or nothing
  have key : ∀ t : Str, (∀ b r, t = b :: r → b = '.') → (∀ c ∈ t.tail, isDigit c = true) →
      toSec (h1 :: h2 :: m1 :: m2 :: (ss ++ t)) =
        .ok (((digitVal h1 * 10 + digitVal h2 : Nat) : Int) * 3600 +
             ((digitVal m1 * 10 + digitVal m2 : Nat) : Int) * 60)
            (some ⟨false, digitsVal 0 (ss ++ t.tail), t.tail.length⟩) := by
    intro t ht0 ht
    rw [toSec_hhmm h1 h2 m1 m2 _ d1 d2 d3 d4
        fun c hc => (plain_facts (plain_append hss ht0 ht c hc)).2.1,
      pyFloatDec_digits ss t hss hne ht0 ht]
    simp [hne]
  exact ⟨key ('.' :: ff) (by simp) hff, by simpa using key [] (by simp) (by simp)⟩

/-- the ten characters `'0'` … `'9'` -/
theorem digit_ofNat : ∀ a < 10,
    isDigit (Char.ofNat (48 + a)) = true ∧ digitVal (Char.ofNat (48 + a)) = a := by
  decide

/-- hours only: any two digits -/
theorem two_digits (a b : Nat) (ha : a < 10) (hb : b < 10) :
    toSec [Char.ofNat (48 + a), Char.ofNat (48 + b)] = .ok ((10 * a + b : Nat) * 3600) none := by
  obtain ⟨da, va⟩ := digit_ofNat a ha
  obtain ⟨db, vb⟩ := digit_ofNat b hb
  rw [toSec_hh _ _ da db, va, vb, Nat.mul_comm a]

/-- hours and minutes: any four digits -/
theorem four_digits (a b c d : Nat) (ha : a < 10) (hb : b < 10) (hc : c < 10) (hd : d < 10) :
    toSec [Char.ofNat (48 + a), Char.ofNat (48 + b), Char.ofNat (48 + c), Char.ofNat (48 + d)] =
      .ok ((10 * a + b : Nat) * 3600 + (10 * c + d : Nat) * 60) none := by
  obtain ⟨da, va⟩ := digit_ofNat a ha
  obtain ⟨db, vb⟩ := digit_ofNat b hb
  obtain ⟨dc, vc⟩ := digit_ofNat c hc
  obtain ⟨dd, vd⟩ := digit_ofNat d hd
  rw [toSec_hhmm _ _ _ _ [] da db dc dd (by simp), va, vb, vc, vd, Nat.mul_comm a, Nat.mul_comm c]
  rfl

end Tm
