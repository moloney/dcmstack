import DcmVerif.Generated.PyPrelude
import DcmVerif.Model.Key
import DcmVerif.Proofs.ListLemmas
/-! Lemmas about what the translator emits — binds, raising guards, loops (`for` with early `return` or `break`, raising loops,
bounded `while` loops) — and about the prelude's slicing and association-list dictionaries, shared by the `Proofs/Code_*.lean`
files. -/
set_option autoImplicit false

namespace Src
variable {α κ : Type}

theorem ok_bind'.{u} {β γ : Type u} (b : β) (f : β → Except PyErr γ) : (Except.ok b >>= f) = f b := rfl

theorem throw_bind'.{u} {β γ : Type u} (e : PyErr) (f : β → Except PyErr γ) : (throw e >>= f) = .error e := rfl

theorem bind_eq_ok {β γ : Type} {x : Except PyErr β} {f : β → Except PyErr γ} {c : γ} :
    (x >>= f) = .ok c ↔ ∃ b, x = .ok b ∧ f b = .ok c := by
  cases x with
  | error e => exact ⟨nofun, nofun⟩
  | ok b => exact ⟨fun h => ⟨b, rfl, h⟩, fun ⟨_, h, h'⟩ => Except.ok.inj h ▸ h'⟩

/-- `if not p: raise e` in front of a block that returns `b` when `q` holds and raises `e` otherwise (what `throw_bind'` leaves
    of the guard) -/
theorem guard_then.{u} {β : Type u} {e : PyErr} {b : β} {p q : Bool} {x : Except PyErr β}
    (hx : p = true → x = if q then .ok b else .error e) :
    (if (!p) = true then .error e else x) = if (p && q) = true then .ok b else .error e := by
  cases p <;> simp [hx]

theorem guard_pure.{u} {β : Type u} {e : PyErr} {b : β} {p : Bool} :
    (if (!p) = true then .error e else pure b) = if p = true then Except.ok b else .error e := by
  cases p <;> rfl

theorem ite_ok_iff {γ : Type} (b : Bool) (x : γ) (e : PyErr) :
    (if b = true then Except.ok x else .error e) = .ok x ↔ b = true := by
  cases b <;> simp

/-- a `for` loop that leaves with state `d` at the first element failing `P` and keeps its state otherwise -/
theorem forIn_exit {β σ : Type} (P : β → Bool) (d : σ) (f : β → σ → Except PyErr (ForInStep σ)) (s : σ) :
    ∀ (l : List β), (∀ x, x ∈ l → f x s = .ok (if P x then ForInStep.yield s else ForInStep.done d)) →
      forIn l s f = .ok (if l.all P then s else d)
  | [], _ => rfl
  | x :: xs, hf => by
    rw [List.forIn_cons, hf x List.mem_cons_self, List.all_cons]
    cases P x
    · rfl
    · exact forIn_exit P d f s xs fun y hy => hf y (List.mem_cons_of_mem _ hy)

/-- a `for` loop that returns False at the first element failing `P` and falls through otherwise -/
theorem forIn_search {β : Type} (P : β → Bool) : ∀ (l : List β),
    (forIn (m := Except PyErr) l ((none : Option Bool), ()) fun (x : β) (__s : Option Bool × Unit) =>
        if (!P x) = true then pure (ForInStep.done (some false, ())) else pure (ForInStep.yield (none, ()))) =
      .ok (if l.all P then (none, ()) else (some false, ())) :=
  fun l => forIn_exit P _ _ _ l fun x _ => by cases P x <;> rfl

/-- `for x in l: if not P(x): raise e0; …`, the rest of the body changing the state -/
theorem forIn_guard {β σ : Type} (e0 : PyErr) (P : β → Bool)
    (f : β → σ → Except PyErr (ForInStep σ))
    (hf : ∀ x s, (P x = true ∧ ∃ s', f x s = .ok (ForInStep.yield s')) ∨ (P x = false ∧ f x s = .error e0)) :
    ∀ (l : List β) (s : σ),
      (l.all P = true ∧ ∃ s', forIn l s f = .ok s') ∨ (l.all P = false ∧ forIn l s f = .error e0)
  | [], s => Or.inl ⟨rfl, s, rfl⟩
  | x :: xs, s => by
    rw [List.forIn_cons, List.all_cons]
    rcases hf x s with ⟨hp, s', hs⟩ | ⟨hp, hs⟩
    · rw [hs, hp, Bool.true_and]
      exact forIn_guard e0 P f hf xs s'
    · rw [hs, hp, Bool.false_and]
      exact Or.inr ⟨rfl, rfl⟩

theorem forIn_guard_unit {β : Type} (e0 : PyErr) (P : β → Bool)
    (f : β → PUnit → Except PyErr (ForInStep PUnit)) : ∀ (l : List β),
    (∀ x, x ∈ l → ∀ s, f x s = if P x then .ok (ForInStep.yield PUnit.unit) else .error e0) →
    forIn l PUnit.unit f = if l.all P then .ok PUnit.unit else .error e0
  | [], _ => rfl
  | x :: xs, hf => by
    rw [List.forIn_cons, hf x List.mem_cons_self, List.all_cons]
    cases P x
    · rfl
    · exact forIn_guard_unit e0 P f xs fun y hy => hf y (List.mem_cons_of_mem _ hy)

theorem forIn_guard_then {β γ : Type} (e0 : PyErr) (P : β → Bool)
    (f : β → PUnit → Except PyErr (ForInStep PUnit)) (l : List β) (x : γ)
    (hf : ∀ a, a ∈ l → ∀ s, f a s = if P a then .ok (ForInStep.yield PUnit.unit) else .error e0) :
    (forIn l PUnit.unit f >>= fun _ => pure x) = if l.all P then .ok x else .error e0 := by
  rw [forIn_guard_unit e0 P f l hf]
  cases l.all P <;> rfl

/-- `while cond: s = step(s)` run for at most `n` rounds -/
def whileFuel {σ : Type} (cond : σ → Bool) (step : σ → σ) : Nat → σ → σ
  | 0, s => s
  | n + 1, s => if cond s then whileFuel cond step n (step s) else s

/-- the `for _ in range(fuel): if not cond: break; s = step(s)` rendering of a `while` loop -/
theorem forIn_while {β σ : Type} (cond : σ → Bool) (step : σ → σ) : ∀ (l : List β) (s : σ),
    (forIn (m := Except PyErr) l s fun (_ : β) (r : σ) =>
        if (!cond r) = true then pure (ForInStep.done r) else pure (ForInStep.yield (step r))) =
      .ok (whileFuel cond step l.length s)
  | [], s => rfl
  | x :: xs, s => by
    rw [List.forIn_cons, List.length_cons, whileFuel]
    cases cond s
    · rfl
    · exact forIn_while cond step xs (step s)

theorem whileFuel_stable {σ : Type} (cond : σ → Bool) (step : σ → σ) (n : Nat) (s : σ) (h : cond s = false) :
    whileFuel cond step n s = s := by
  cases n <;> simp [whileFuel, h]

theorem whileFuel_cond_false {σ : Type} (cond : σ → Bool) (step : σ → σ) (m : σ → Nat)
    (hdec : ∀ s, cond s = true → m (step s) < m s) : ∀ (n : Nat) (s : σ), m s ≤ n →
    cond (whileFuel cond step n s) = false
  | 0, s, h => by
    cases hc : cond s
    · exact hc
    · have := hdec s hc; omega
  | n + 1, s, h => by
    cases hc : cond s
    · rw [whileFuel_stable _ _ _ _ hc, hc]
    · rw [whileFuel, if_pos hc]
      exact whileFuel_cond_false cond step m hdec n (step s) (by have := hdec s hc; omega)

/-- the rendering of a `while` loop followed by its check that the bound was not what ended it, when it was not -/
theorem forIn_while_done {β σ γ : Type} (cond : σ → Bool) (step : σ → σ) (l : List β) (s : σ) (k : σ → Except PyErr γ)
    (hfin : cond (whileFuel cond step l.length s) = false) :
    (forIn (m := Except PyErr) l s (fun (_ : β) (r : σ) =>
        if (!cond r) = true then pure (ForInStep.done r) else pure (ForInStep.yield (step r))) >>= fun r =>
      if cond r = true then .error PyErr.fuelExhausted else k r) = k (whileFuel cond step l.length s) := by
  rw [forIn_while, ok_bind', hfin]
  rfl

/-- the condition of the padding loops: `while len(shape) <= dim` -/
def padCond (dim : Nat) (l : List Nat) : Bool := decide (l.length ≤ dim)

theorem whileFuel_pad (dim : Nat) : ∀ (n : Nat) (l : List Nat), dim + 1 - l.length ≤ n →
    whileFuel (padCond dim) (fun l => l ++ [1]) n l = l ++ List.replicate (dim + 1 - l.length) 1
  | 0, l, h => by simp [whileFuel, show dim + 1 - l.length = 0 by omega]
  | n + 1, l, h => by
    by_cases hc : l.length ≤ dim
    · rw [whileFuel, if_pos (by simp [padCond, hc]), whileFuel_pad dim n (l ++ [1]) (by simp; omega),
        show dim + 1 - l.length = (dim + 1 - (l ++ [1]).length) + 1 by simp; omega, List.replicate_succ, List.append_assoc]
      rfl
    · rw [whileFuel_stable _ _ _ _ (by simp [padCond, hc])]
      simp [show dim + 1 - l.length = 0 by omega]

/-- the padding loop `while len(shape) <= dim: shape += [1]` with the statements `k` after it -/
theorem forIn_pad_done {β γ : Type} (dim : Nat) (l : List β) (hl : l.length = dim + 1) (shape : List Nat)
    (k : List Nat → Except PyErr γ) :
    (forIn (m := Except PyErr) l shape (fun (_ : β) (r : List Nat) =>
        if (!padCond dim r) = true then pure (ForInStep.done r) else pure (ForInStep.yield (r ++ [1]))) >>= fun r =>
      if padCond dim r = true then .error PyErr.fuelExhausted else k r) =
      k (shape ++ List.replicate (dim + 1 - shape.length) 1) := by
  have hpad := whileFuel_pad dim (dim + 1) shape (by omega)
  rw [forIn_while_done (padCond dim) _ _ _ _ (by rw [hl, hpad]; simp [padCond]; omega), hl, hpad]

theorem forIn_yield {β σ : Type} (g : β → σ → σ) (l : List β) (s : σ) :
    (forIn (m := Except PyErr) l s fun (x : β) (r : σ) => pure (ForInStep.yield (g x r))) =
      .ok (l.foldl (fun r x => g x r) s) :=
  List.forIn_pure_yield_eq_foldl g s

def iter {σ : Type} (g : σ → σ) : Nat → σ → σ
  | 0, s => s
  | k + 1, s => iter g k (g s)

theorem foldl_range_const {σ : Type} (g : σ → σ) (k : Nat) (s : σ) :
    (List.range k).foldl (fun r _ => g r) s = iter g k s := by
  have : ∀ (l : List Nat) (s : σ), l.foldl (fun r _ => g r) s = iter g l.length s := by
    intro l
    induction l with
    | nil => intro s; rfl
    | cons x xs ih => intro s; simp [List.foldl_cons, ih, iter]
  simpa using this (List.range k) s

theorem pyStepAux_eq (p : Nat) : ∀ (l : List α) (k : Nat), pyStepAux p k l = strideAux p k l
  | [], k => by simp [pyStepAux, strideAux]
  | a :: l, 0 => by simp [pyStepAux, strideAux, pyStepAux_eq p l]
  | a :: l, k + 1 => by simp [pyStepAux, strideAux, pyStepAux_eq p l]

/-- Python's `values[start::step]` is the model's `stride step (values.drop start)` -/
theorem pyStep_eq (l : List α) (start p : Nat) : pyStep l start p = stride p (l.drop start) := by
  simp [pyStep, stride, pyStepAux_eq]

theorem sub_beq_slices (c : Cls) : (c.sub == "slices") = perSlice c := by cases c <;> rfl

theorem sub_slices (c : Cls) : c.sub = "slices" ↔ perSlice c = true := by rw [← sub_beq_slices, beq_iff_eq]

/-! ### association-list dictionaries (`dictGet`, `dictSet`, `dictHas`, `dictDel` of the prelude) -/

theorem keys_map_if {κ' β : Type} (P : κ' × β → Prop) [DecidablePred P] (g : κ' × β → β) (d : List (κ' × β)) :
    (d.map fun p => if P p then (p.1, g p) else p).map (·.1) = d.map (·.1) := by
  rw [List.map_map]
  refine List.map_congr_left fun p _ => ?_
  simp only [Function.comp]
  split <;> rfl

section dict
variable {κ' β : Type} [DecidableEq κ']

theorem dictHas_iff (d : List (κ' × β)) (k : κ') : dictHas d k = true ↔ k ∈ d.map (·.1) := by
  simp [dictHas]

theorem dictGet_cons [Inhabited β] (a : κ' × β) (d : List (κ' × β)) (k : κ') :
    dictGet (a :: d) k = if a.1 = k then a.2 else dictGet d k := by
  by_cases h : a.1 = k <;> simp [dictGet, h]

theorem dictGet_mem [Inhabited β] (d : List (κ' × β)) (h : (d.map (·.1)).Nodup) (p : κ' × β) (hp : p ∈ d) :
    dictGet d p.1 = p.2 := by
  rw [dictGet, find?_key (·.1) h hp]

theorem dictSet_cons (a : κ' × β) (d : List (κ' × β)) (k : κ') (v : β) :
    dictSet (a :: d) k v =
      if a.1 = k then (k, v) :: d.map (fun p => if p.1 == k then (k, v) else p) else a :: dictSet d k v := by
  by_cases h : a.1 = k
  · simp [dictSet, h]
  · by_cases hany : (d.any fun p => p.1 == k) = true <;> simp [dictSet, h, hany]

theorem dictGet_overwrite [Inhabited β] (k k' : κ') (v : β) (h : k ≠ k') (d : List (κ' × β)) :
    dictGet (d.map fun p => if p.1 == k then (k, v) else p) k' = dictGet d k' := by
  induction d with
  | nil => rfl
  | cons a d ih =>
    rw [List.map_cons, dictGet_cons, dictGet_cons, ih]
    by_cases ha : a.1 = k
    · simp [ha, h]
    · simp [ha]

theorem dictGet_dictSet [Inhabited β] (k : κ') (v : β) (k' : κ') (d : List (κ' × β)) :
    dictGet (dictSet d k v) k' = if k = k' then v else dictGet d k' := by
  induction d with
  | nil => simp [dictSet, dictGet_cons]
  | cons a d ih =>
    rw [dictSet_cons]
    by_cases ha : a.1 = k
    · rw [if_pos ha, dictGet_cons, dictGet_cons]
      by_cases hk : k = k'
      · simp [hk]
      · rw [dictGet_overwrite k k' v hk d]
        simp [hk, ha]
    · rw [if_neg ha, dictGet_cons, dictGet_cons, ih]
      by_cases hk : a.1 = k'
      · have hne : ¬ k = k' := fun e => ha (hk.trans e.symm)
        simp [hk, hne]
      · simp [hk]

theorem dictSet_of_mem (d : List (κ' × β)) (k : κ') (hk : k ∈ d.map (·.1)) (v : β) :
    dictSet d k v = d.map fun p => if p.1 = k then (p.1, v) else p := by
  have hk' : (d.any fun p => p.1 == k) = true := (dictHas_iff d k).mpr hk
  rw [dictSet, if_pos hk']
  refine List.map_congr_left fun p _ => ?_
  by_cases e : p.1 = k <;> simp [e]

theorem dictSet_keys (d : List (κ' × β)) (k : κ') (hk : k ∈ d.map (·.1)) (v : β) :
    (dictSet d k v).map (·.1) = d.map (·.1) := by
  rw [dictSet_of_mem d k hk]
  exact keys_map_if _ _ d

theorem dictSet_modify [Inhabited β] (d : List (κ' × β)) (hn : (d.map (·.1)).Nodup) (c : κ') (hc : c ∈ d.map (·.1))
    (g : β → β) : dictSet d c (g (dictGet d c)) = d.map fun p => if p.1 = c then (p.1, g p.2) else p := by
  rw [dictSet_of_mem d c hc]
  refine List.map_congr_left fun p hp => ?_
  by_cases e : p.1 = c
  · subst e
    rw [if_pos rfl, if_pos rfl, dictGet_mem d hn p hp]
  · rw [if_neg e, if_neg e]

theorem foldl_dictSet_modify [Inhabited β] {γ : Type} (g : β → γ → β) (c : κ') (ks : List γ) (d : List (κ' × β))
    (hn : (d.map (·.1)).Nodup) (hc : c ∈ d.map (·.1)) :
    ks.foldl (fun r k => dictSet r c (g (dictGet r c) k)) d =
      d.map fun p => if p.1 = c then (p.1, ks.foldl g p.2) else p := by
  induction ks generalizing d with
  | nil => simp
  | cons k ks ih =>
    have hk := keys_map_if (fun p => p.1 = c) (fun p => g p.2 k) d
    rw [List.foldl_cons, dictSet_modify d hn c hc (g · k), ih _ (hk.symm ▸ hn) (hk.symm ▸ hc), List.map_map]
    refine List.map_congr_left fun p _ => ?_
    by_cases e : p.1 = c <;> simp [e]

theorem foldl_dictDel (ks : List κ') (d : List (κ' × β)) :
    ks.foldl dictDel d = d.filter fun p => !ks.contains p.1 := by
  induction ks generalizing d with
  | nil => exact (List.filter_eq_self.mpr fun _ _ => rfl).symm
  | cons k ks ih =>
    rw [List.foldl_cons, ih, dictDel, List.filter_filter]
    refine List.filter_congr fun p _ => ?_
    by_cases e : p.1 = k <;> by_cases m : p.1 ∈ ks <;> simp [e, m]

end dict

theorem dictHas_map {κ' β : Type} [DecidableEq κ'] (d : List (κ' × β)) (h : β → κ' → β) (c : κ') :
    dictHas (d.map fun p => (p.1, h p.2 p.1)) c = dictHas d c := by
  simp [dictHas, List.any_map, Function.comp_def]

end Src
