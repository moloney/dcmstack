import DcmVerif.Proofs.Phoenix
/-! C16, unbounded round trip: a rendered assignment line — any whitespace, any well-formed key,
a number or a quoted string in either dialect (with `#` / `=` inside the quotes), an optional trailing
comment — parses back to exactly that key and value; the numeric conversions on digit strings of any
length; and the whole protocol: text between the ASCCONV markers parses to the dictionary folded from
its lines. -/
set_option autoImplicit false

namespace Phx

def Dialect (d : Str) : Prop := d = ['"'] ∨ d = ['"', '"']

theorem Dialect.cons {d : Str} (h : Dialect d) : ∃ t, d = '"' :: t := by
  rcases h with rfl | rfl <;> simp

theorem Dialect.noHash {d : Str} (hd : Dialect d) : '#' ∉ d := by
  rcases hd with rfl | rfl <;> decide

theorem Dialect.noEq {d : Str} (hd : Dialect d) : '=' ∉ d := by
  rcases hd with rfl | rfl <;> decide

/-! ### searching and counting the delimiter in text without quote characters -/

theorem Dialect.findSub {d : Str} (hd : Dialect d) (A B : Str) (hA : '"' ∉ A) :
    findSub d (A ++ d ++ B) = some A.length := by
  obtain ⟨t, rfl⟩ := hd.cons
  rw [List.append_assoc, findSub_skip_head '"' t A _ hA, findSub_prefix_self]
  simp

theorem Dialect.countSub_noQ {d : Str} (hd : Dialect d) (A : Str) (hA : '"' ∉ A) :
    countSub d A = 0 := by
  obtain ⟨t, rfl⟩ := hd.cons
  exact countSub_not_mem '"' t A hA

theorem Dialect.countSub_skip {d : Str} (hd : Dialect d) (A X : Str) (hA : '"' ∉ A) :
    countSub d (A ++ d ++ X) = 1 + countSub d X := by
  obtain ⟨t, rfl⟩ := hd.cons
  rw [List.append_assoc, countSub_skip_head '"' t A _ hA, countSub_prefix_self _ (by simp)]

theorem Dialect.noPrefix_of_noQ {d : Str} (hd : Dialect d) (v : Str) (hv : '"' ∉ v) :
    d.isPrefixOf v = false := by
  obtain ⟨t, rfl⟩ := hd.cons
  cases v with
  | nil => rfl
  | cons x xs => exact isPrefixOf_cons_ne t xs (fun e => hv (by simp [← e]))

def NoWsEnds (t : Str) : Prop :=
  (∀ x xs, t = x :: xs → isWs x = false) ∧ (∀ x xs, t.reverse = x :: xs → isWs x = false)

theorem noWsEnds_iff {t : Str} :
    NoWsEnds t ↔ (∀ a ∈ t.head?, isWs a = false) ∧ (∀ b ∈ t.getLast?, isWs b = false) := by
  simp only [NoWsEnds, List.getLast?_eq_head?_reverse, List.head?_eq_some_iff, Option.mem_def,
    forall_exists_index]

theorem strip_token (ws1 t ws2 : Str) (h1 : ∀ c ∈ ws1, isWs c = true)
    (h2 : ∀ c ∈ ws2, isWs c = true) (ht : NoWsEnds t) : strip (ws1 ++ t ++ ws2) = t :=
  strip_sandwich ws1 t ws2 h1 h2 ht.1 ht.2

theorem Dialect.quoted_noWsEnds {d : Str} (hd : Dialect d) (content : Str) :
    NoWsEnds (d ++ content ++ d) := by
  have hl : d.getLast? = some '"' := by rcases hd with rfl | rfl <;> rfl
  obtain ⟨t, rfl⟩ := hd.cons
  rw [noWsEnds_iff, List.getLast?_append, hl]
  exact ⟨fun a h => by cases h; rfl, fun b h => by cases h; rfl⟩

theorem key_part (ws1 key ws2 : Str) (h1 : ∀ c ∈ ws1, isWs c = true) (h2 : ∀ c ∈ ws2, isWs c = true)
    (hkey : NoWsEnds key) (hk1 : '=' ∉ key) (hk2 : '#' ∉ key) (hk3 : '"' ∉ key) :
    strip (ws1 ++ key ++ ws2) = key ∧ '=' ∉ ws1 ++ key ++ ws2 ∧ '#' ∉ ws1 ++ key ++ ws2 ∧
      '"' ∉ ws1 ++ key ++ ws2 := by
  obtain ⟨e1, s1, q1⟩ := ws_not_mem h1
  obtain ⟨e2, s2, q2⟩ := ws_not_mem h2
  exact ⟨strip_token ws1 key ws2 h1 h2 hkey, by simp [e1, e2, hk1], by simp [s1, s2, hk2],
    by simp [q1, q2, hk3]⟩

/-- **numbers round-trip at line level**: any whitespace around key, `=` and value, an optional
    trailing comment; the value token is handed to the numeric conversions unchanged -/
theorem parse_render_number (d : Str) (hd : Dialect d) (ws1 key ws2 ws3 val ws4 cmt : Str)
    (h1 : ∀ c ∈ ws1, isWs c = true) (h2 : ∀ c ∈ ws2, isWs c = true)
    (h3 : ∀ c ∈ ws3, isWs c = true) (h4 : ∀ c ∈ ws4, isWs c = true)
    (hkey : NoWsEnds key) (hk1 : '=' ∉ key) (hk2 : '#' ∉ key) (hk3 : '"' ∉ key)
    (hval : NoWsEnds val) (hv2 : '#' ∉ val) (hv3 : '"' ∉ val)
    (hc : cmt = [] ∨ ∃ x, cmt = '#' :: x) :
    parseLine d (ws1 ++ key ++ ws2 ++ '=' :: (ws3 ++ val ++ ws4 ++ cmt)) = parseNumber key val := by
  obtain ⟨hpre, e, s, q⟩ := key_part ws1 key ws2 h1 h2 hkey hk1 hk2 hk3
  generalize ws1 ++ key ++ ws2 = pre at hpre e s q ⊢
  obtain ⟨_, s3, q3⟩ := ws_not_mem h3
  obtain ⟨_, s4, q4⟩ := ws_not_mem h4
  -- no `#` and no quote before the comment: it is cut off
  have hkept := stripComment_tail d (pre ++ '=' :: (ws3 ++ val ++ ws4)) cmt
    (by simp [s, s3, s4, hv2])
    (by rw [hd.countSub_noQ _ (by simp [q, q3, q4, hv3])]; decide) hc
  rw [List.append_assoc _ _ cmt, List.cons_append] at hkept
  rw [parseLine_of_kept d _ _ _ key hkept e hpre, strip_token ws3 val ws4 h3 h4 hval,
    hd.noPrefix_of_noQ val hv3]
  rfl

theorem parseString_ok (d : Str) (hd : Dialect d) (key content T : Str) (hq : '"' ∉ content)
    (hT : T = [] ∨ ['#'].isPrefixOf (strip T) = true) :
    parseString d key (d ++ content ++ d ++ T) = .pair key (.str content) := by
  have hre : d ++ content ++ d ++ T = d ++ (content ++ (d ++ T)) := by simp
  rw [parseString_at d key _ (content.length + d.length) (by
    rw [hre, List.drop_left, ← List.append_assoc, findI, hd.findSub content T hq]; simp)]
  have htake : (d ++ content ++ d ++ T).take (content.length + d.length) = d ++ content := by
    rw [hre, ← List.append_assoc]; exact List.take_left' (by simp; omega)
  have hdrop : (d ++ content ++ d ++ T).drop (content.length + d.length + d.length) = T :=
    List.drop_left' (by simp; omega)
  rw [htake, hdrop, List.drop_left, if_pos]
  rcases hT with rfl | hT
  · left; simp; omega
  · exact Or.inr hT

/-- the comment handling keeps everything if the first `#` is inside the quotes, else everything
    before the comment -/
theorem Dialect.stripComment_quoted {d : Str} (hd : Dialect d) (A content B cmt : Str)
    (hAs : '#' ∉ A) (hAq : '"' ∉ A) (hq : '"' ∉ content) (hBs : '#' ∉ B) (hBq : '"' ∉ B)
    (hc : cmt = [] ∨ ∃ x, cmt = '#' :: x) :
    ∃ cmt', (cmt' = [] ∨ ∃ x, cmt' = '#' :: x) ∧
      stripComment d (A ++ d ++ content ++ d ++ B ++ cmt) =
        some (A ++ d ++ content ++ d ++ B ++ cmt') := by
  have sd := hd.noHash
  by_cases hin : '#' ∈ content
  · obtain ⟨c1, c2, rfl, hc1⟩ := List.eq_append_cons_of_mem hin
    have hq1 : '"' ∉ c1 := fun h => hq (by simp [h])
    have hq2 : '"' ∉ c2 := fun h => hq (by simp [h])
    have := stripComment_keep d (A ++ d ++ c1) (c2 ++ d ++ (B ++ cmt)) (by simp [hAs, sd, hc1])
      (by rw [hd.countSub_skip _ c1 hAq, hd.countSub_noQ c1 hq1])
      (by rw [← List.cons_append, ← List.cons_append, hd.findSub ('#' :: c2) _ (by simp [hq2])]
          simp)
    exact ⟨cmt, hc, by simpa using this⟩
  · have := stripComment_tail d (A ++ d ++ (content ++ d ++ B)) cmt (by simp [hAs, hBs, sd, hin])
      (by rw [hd.countSub_skip _ _ hAq, hd.countSub_skip content B hq, hd.countSub_noQ B hBq]
          decide) hc
    exact ⟨[], Or.inl rfl, by simpa using this⟩

theorem strip_token_tail (ws3 t ws4 cmt : Str) (h3 : ∀ c ∈ ws3, isWs c = true)
    (h4 : ∀ c ∈ ws4, isWs c = true) (ht : NoWsEnds t) (hne : t ≠ [])
    (hc : cmt = [] ∨ ∃ x, cmt = '#' :: x) :
    ∃ T, (T = [] ∨ ['#'].isPrefixOf (strip T) = true) ∧ strip (ws3 ++ t ++ ws4 ++ cmt) = t ++ T := by
  rcases hc with rfl | ⟨x, rfl⟩
  · exact ⟨[], Or.inl rfl, by simpa using strip_token ws3 t ws4 h3 h4 ht⟩
  · refine ⟨ws4 ++ '#' :: rstrip x, Or.inr ?_, ?_⟩
    · rw [strip, lstrip_ws_cons ws4 '#' _ h4 rfl, rstrip_cons '#' _ rfl]; rfl
    · obtain ⟨a, t, rfl⟩ := List.exists_cons_of_ne_nil hne
      have := rstrip_append_cons (a :: t ++ ws4) '#' x rfl
      rw [strip]
      simpa [lstrip_ws_cons ws3 a _ h3 (ht.1 a t rfl)] using this

/-- **quoted strings round-trip at line level, both dialects**: any whitespace, `#` and `=` allowed
    inside the quotes, optional trailing comment (which may itself contain anything) -/
theorem parse_render_string (d : Str) (hd : Dialect d) (ws1 key ws2 ws3 content ws4 cmt : Str)
    (h1 : ∀ c ∈ ws1, isWs c = true) (h2 : ∀ c ∈ ws2, isWs c = true)
    (h3 : ∀ c ∈ ws3, isWs c = true) (h4 : ∀ c ∈ ws4, isWs c = true)
    (hkey : NoWsEnds key) (hk1 : '=' ∉ key) (hk2 : '#' ∉ key) (hk3 : '"' ∉ key)
    (hq : '"' ∉ content)
    (hc : cmt = [] ∨ ∃ x, cmt = '#' :: x) :
    parseLine d (ws1 ++ key ++ ws2 ++ '=' :: (ws3 ++ d ++ content ++ d ++ ws4 ++ cmt)) =
      .pair key (.str content) := by
  obtain ⟨hpre, e, s, q⟩ := key_part ws1 key ws2 h1 h2 hkey hk1 hk2 hk3
  generalize ws1 ++ key ++ ws2 = pre at hpre e s q ⊢
  obtain ⟨_, s3, q3⟩ := ws_not_mem h3
  obtain ⟨_, s4, q4⟩ := ws_not_mem h4
  obtain ⟨cmt', hc', hkept⟩ := hd.stripComment_quoted (pre ++ '=' :: ws3) content ws4 cmt
    (by simp [s, s3]) (by simp [q, q3]) hq s4 q4 hc
  simp only [List.append_assoc, List.cons_append] at hkept ⊢
  rw [parseLine_of_kept d _ _ _ key hkept e hpre]
  -- the value token: the quoted string and what is left of the comment
  obtain ⟨T, hT, hv⟩ := strip_token_tail ws3 (d ++ content ++ d) ws4 cmt' h3 h4
    (hd.quoted_noWsEnds content) (by obtain ⟨t, rfl⟩ := hd.cons; simp) hc'
  simp only [List.append_assoc] at hv
  rw [hv, if_pos, ← List.append_assoc, ← List.append_assoc, parseString_ok d hd key content T hq hT]
  simp

/-! ### the numeric conversions -/

theorem digitsGo_under_nil (b : Nat) (dg : Char → Option Nat) (acc : Nat) (h : dg '_' = none) :
    digitsGo b dg acc ['_'] = none := by
  rw [digitsGo.eq_def]
  simp [h]

theorem digitsGo_all (b : Nat) (dg : Char → Option Nat) (cs : Str) (acc : Nat)
    (h : ∀ c ∈ cs, (dg c).isSome = true) (hu : dg '_' = none) :
    digitsGo b dg acc cs = some (cs.foldl (fun a c => a * b + (dg c).getD 0) acc) := by
  induction cs generalizing acc with
  | nil => rfl
  | cons c cs ih =>
    obtain ⟨v, hv⟩ := Option.isSome_iff_exists.mp (h c (by simp))
    have hne : c ≠ '_' := fun e => by simp [e, hu] at hv
    rw [digitsGo.eq_3 b dg acc c cs (fun _ _ e _ => hne e), hv, List.foldl_cons, hv]
    exact ih _ (fun x hx => h x (by simp [hx]))

theorem digitsGo_bad (b : Nat) (dg : Char → Option Nat) (cs : Str) (acc : Nat) (c : Char)
    (hc : c ∈ cs) (hd : dg c = none) (hne : c ≠ '_') : digitsGo b dg acc cs = none := by
  -- `c` is not a character that was read as a digit
  have next {x : Char} {xs : Str} {v : Nat} (hx : dg x = some v) (h : c ∈ x :: xs) : c ∈ xs :=
    (List.mem_cons.mp h).resolve_left (fun e => by simp [← e, hd] at hx)
  induction acc, cs using digitsGo.induct b dg with
  | case1 acc => simp at hc
  | case2 acc x xs v hx ih =>
    rw [digitsGo.eq_2, hx]
    exact ih (next hx ((List.mem_cons.mp hc).resolve_left hne))
  | case3 acc x xs hx => rw [digitsGo.eq_2, hx]
  | case4 acc x xs hnu v hx ih => rw [digitsGo.eq_3 _ _ _ _ _ hnu, hx]; exact ih (next hx hc)
  | case5 acc x xs hnu hx => rw [digitsGo.eq_3 _ _ _ _ _ hnu, hx]

theorem decDigit_under : decDigit '_' = none := by decide
theorem hexVal_under : hexVal '_' = none := by decide

theorem decDigit_some_of_isDigit {c : Char} (h : isDigit c = true) : (decDigit c).isSome = true := by
  simp [decDigit, h]

def signStr (neg : Bool) : Str := if neg then ['-'] else []

/-- value of a digit string in base `b` -/
def valOf (b : Nat) (dg : Char → Option Nat) (cs : Str) : Nat :=
  cs.foldl (fun a c => a * b + (dg c).getD 0) 0

theorem parseDigits_all (b : Nat) (dg : Char → Option Nat) (cs : Str) (hne : cs ≠ [])
    (h : ∀ c ∈ cs, (dg c).isSome = true) (hu : dg '_' = none) :
    parseDigits b dg cs = some (valOf b dg cs) := by
  cases cs with
  | nil => exact absurd rfl hne
  | cons c cs =>
    obtain ⟨v, hv⟩ := Option.isSome_iff_exists.mp (h c (by simp))
    simp [parseDigits, valOf, hv, digitsGo_all b dg cs v (fun x hx => h x (by simp [hx])) hu]

theorem parseDigits_bad (b : Nat) (dg : Char → Option Nat) (cs : Str) (c : Char)
    (hc : c ∈ cs) (hd : dg c = none) (hne : c ≠ '_') : parseDigits b dg cs = none := by
  cases cs with
  | nil => rfl
  | cons x xs =>
    rw [parseDigits]
    cases hx : dg x with
    | none => rfl
    | some v =>
      exact digitsGo_bad b dg xs v c
        ((List.mem_cons.mp hc).resolve_left (fun e => by simp [← e, hd] at hx)) hd hne

theorem splitSign_signStr (neg : Bool) (cs : Str)
    (h : ∀ x xs, cs = x :: xs → x ≠ '-' ∧ x ≠ '+') :
    splitSign (signStr neg ++ cs) = (neg, cs) := by
  cases neg with
  | true => rfl
  | false =>
    exact splitSign.eq_3 cs (fun r e => (h _ r e).1 rfl) (fun r e => (h _ r e).2 rfl)

theorem isDigit_not_sign {c : Char} (h : isDigit c = true) : c ≠ '-' ∧ c ≠ '+' := by
  constructor <;> (intro e; subst e; simp [isDigit] at h)

theorem mem_splitSign (v : Str) (c : Char) (hc : c ∈ v) (h1 : c ≠ '-') (h2 : c ≠ '+') :
    c ∈ (splitSign v).2 := by
  unfold splitSign
  split <;> simp_all

theorem mem_dropHexPrefix (r : Str) (c : Char) (hc : c ∈ r) (h0 : c ≠ '0') (h1 : c ≠ 'x')
    (h2 : c ≠ 'X') (h3 : c ≠ '_') : c ∈ dropHexPrefix r := by
  fun_cases dropHexPrefix r
  all_goals simpa only [List.mem_cons, h0, h1, h2, h3, false_or] using hc

theorem pyInt_none (v : Str) (c : Char) (hc : c ∈ (splitSign v).2) (hd : decDigit c = none)
    (hne : c ≠ '_') : pyInt v = none := by
  rw [pyInt, parseDigits_bad 10 decDigit _ c hc hd hne]; rfl

theorem pyInt_dec (neg : Bool) (cs : Str) (hne : cs ≠ []) (h : ∀ c ∈ cs, isDigit c = true) :
    pyInt (signStr neg ++ cs) = some (applySign neg (valOf 10 decDigit cs)) := by
  rw [pyInt, splitSign_signStr neg cs (fun x xs e => isDigit_not_sign (h x (by simp [e]))),
    parseDigits_all 10 decDigit cs hne (fun c hc => decDigit_some_of_isDigit (h c hc)) decDigit_under]
  rfl

/-- **decimal integers**: optional `-`, one or more digits (leading zeros allowed) -/
theorem parseNumber_dec (key : Str) (neg : Bool) (cs : Str) (hne : cs ≠ [])
    (h : ∀ c ∈ cs, isDigit c = true) :
    parseNumber key (signStr neg ++ cs) = .pair key (.int (applySign neg (valOf 10 decDigit cs))) := by
  rw [parseNumber, pyInt_dec neg cs hne h]

theorem dropHexPrefix_0x {x : Char} (hx : x = 'x' ∨ x = 'X') {cs : Str} (h : ∀ t, cs ≠ '_' :: t) :
    dropHexPrefix ('0' :: x :: cs) = cs := by
  rcases hx with rfl | rfl
  · exact dropHexPrefix.eq_3 cs h
  · exact dropHexPrefix.eq_4 cs h

/-- **`0x` hexadecimal integers**: optional `-`, `0x` or `0X`, one or more hex digits of either case -/
theorem parseNumber_hex (key : Str) (neg : Bool) (x : Char) (cs : Str) (hx : x = 'x' ∨ x = 'X')
    (hne : cs ≠ []) (h : ∀ c ∈ cs, (hexVal c).isSome = true) :
    parseNumber key (signStr neg ++ '0' :: x :: cs) =
      .pair key (.int (applySign neg (valOf 16 hexVal cs))) := by
  have hsplit : splitSign (signStr neg ++ '0' :: x :: cs) = (neg, '0' :: x :: cs) :=
    splitSign_signStr neg _ fun y ys e => (List.cons.inj e).1 ▸ by decide
  -- `x` is no decimal digit, so `int()` fails
  have hxd : decDigit x = none ∧ x ≠ '_' := by rcases hx with rfl | rfl <;> decide
  have hint : pyInt (signStr neg ++ '0' :: x :: cs) = none :=
    pyInt_none _ x (by simp [hsplit]) hxd.1 hxd.2
  have hdrop : dropHexPrefix ('0' :: x :: cs) = cs :=
    dropHexPrefix_0x hx fun t e => by simpa [e, hexVal_under] using h '_'
  rw [parseNumber, hint]
  simp only [pyIntHex, hsplit, hdrop, parseDigits_all 16 hexVal cs hne h hexVal_under]
  rfl

/-- **floats**: a token with a character no integer syntax admits (`.`, or the sign of an exponent)
    that CPython's `float()` accepts is returned as that float lexeme; one that `float()` rejects
    raises the parse error -/
theorem parseNumber_float (key v : Str) (c : Char) (hc : c ∈ (splitSign v).2)
    (hx : hexVal c = none) (h1 : c ≠ '_') (h2 : c ≠ 'x') (h3 : c ≠ 'X') :
    parseNumber key v = if pyFloatOk v then .pair key (.floatLex v) else .parseError := by
  have hdig : isDigit c = false := Bool.eq_false_iff.2 fun hd => by simp [hexVal, hd] at hx
  have h0 : c ≠ '0' := by intro e; subst e; simp [isDigit] at hdig
  have hhex : pyIntHex v = none := by
    rw [pyIntHex, parseDigits_bad 16 hexVal _ c (mem_dropHexPrefix _ c hc h0 h2 h3 h1) hx h1]; rfl
  rw [parseNumber, pyInt_none v c hc (by simp [decDigit, hdig]) h1]
  simp only [hhex]

/-- a token containing a decimal point is never taken for an integer -/
theorem parseNumber_point (key v : Str) (hp : '.' ∈ v) :
    parseNumber key v = if pyFloatOk v then .pair key (.floatLex v) else .parseError :=
  parseNumber_float key v '.' (mem_splitSign v '.' hp (by decide) (by decide)) (by decide)
    (by decide) (by decide) (by decide)

/-- non-vacuity: concrete tokens meeting the hypotheses -/
example : pyFloatOk "-1.5e-3".toList = true ∧ '.' ∈ "-1.5e-3".toList := by decide +kernel
example : NoWsEnds "sSliceArray.asSlice[0].dThickness".toList := noWsEnds_iff.2 (by decide +kernel)

/-! ### the whole protocol -/

/-- **every assignment is recovered, in order, later duplicates overwriting earlier ones; blank and
    comment lines contribute nothing** -/
theorem protLoop_ok (d : Str) (ls : List Str) (acc : List (Str × PVal))
    (h : ∀ l ∈ ls, parseLine d l ≠ .parseError) :
    protLoop d ls acc = .ok (ls.foldl (applyLine d) acc) := by
  simpa [protLoop] using protLoop_append d ls [] acc h

/-- lines joined with a newline after each -/
def joinNl : List Str → Str
  | [] => []
  | l :: ls => l ++ '\n' :: joinNl ls

theorem splitLines_noNl (l : Str) (h : '\n' ∉ l) : splitLines l = [l] := by
  induction l with
  | nil => rfl
  | cons c cs ih =>
    simp [splitLines, ih (List.not_mem_of_not_mem_cons h), (List.ne_of_not_mem_cons h).symm]

theorem splitLines_ne_nil (l : Str) : splitLines l ≠ [] := by
  cases l with
  | nil => simp [splitLines]
  | cons c cs => rw [splitLines]; split <;> (try split) <;> simp

theorem splitLines_append (l rest : Str) (h : '\n' ∉ l) :
    splitLines (l ++ '\n' :: rest) = l :: splitLines rest := by
  induction l with
  | nil =>
    rw [List.nil_append, splitLines]
    cases hr : splitLines rest with
    | nil => exact absurd hr (splitLines_ne_nil rest)
    | cons a as => simp
  | cons c cs ih =>
    simp only [List.cons_append, splitLines, ih (List.not_mem_of_not_mem_cons h),
      (List.ne_of_not_mem_cons h).symm, if_false]

theorem splitLines_joinNl (ls : List Str) (h : ∀ l ∈ ls, '\n' ∉ l) :
    splitLines (joinNl ls) = ls ++ [[]] := by
  induction ls with
  | nil => rfl
  | cons l ls ih =>
    rw [joinNl, splitLines_append l _ (h l (by simp)), ih (fun x hx => h x (by simp [hx]))]
    rfl

/-! ### locating the markers -/

theorem findSub_after (c : Char) (t A B : Str) (hA : findSub (c :: t) A = none)
    (hlast : ∀ z, A.getLast? = some z → z ∉ c :: t) :
    findSub (c :: t) (A ++ (c :: t) ++ B) = some A.length := by
  induction A with
  | nil => simpa using findSub_prefix_self (c :: t) B
  | cons x xs ih =>
    rw [findSub] at hA
    split at hA
    · cases hA
    rename_i hp
    -- no occurrence starts at `x`: it would lie inside `x :: xs`, or reach beyond its last character
    have hnp : ¬ (c :: t).isPrefixOf (x :: (xs ++ ((c :: t) ++ B))) = true := fun hq => by
      rcases List.prefix_or_prefix_of_prefix (List.isPrefixOf_iff_prefix.mp hq)
        (List.prefix_append (x :: xs) _) with h | h
      · exact hp (List.isPrefixOf_iff_prefix.mpr h)
      · exact hlast _ (List.getLast?_eq_some_getLast (List.cons_ne_nil x xs))
          (h.subset (List.getLast_mem _))
    rw [List.append_assoc] at ih ⊢
    rw [List.cons_append, findSub, if_neg hnp, ih (by simpa using hA) fun z hz =>
      hlast z (by rw [List.getLast?_cons, hz]; rfl)]
    rfl

/-- `text[text.find(B):text.find(E)]` for two markers that begin with the same character -/
theorem slice_between (c : Char) (B E head body trailer : Str) (hB : B.head? = some c)
    (hE : E.head? = some c) (hh : c ∉ head) (hb : B <+: body) (hend : findSub E body = none)
    (hlast : ∀ z, body.getLast? = some z → z ∉ E) :
    pySlice (findI B (head ++ body ++ E ++ trailer)) (findI E (head ++ body ++ E ++ trailer))
      (head ++ body ++ E ++ trailer) = body := by
  obtain ⟨b, rfl⟩ := List.head?_eq_some_iff.1 hB
  obtain ⟨e, rfl⟩ := List.head?_eq_some_iff.1 hE
  obtain ⟨rest, rfl⟩ := hb
  have hs : findSub (c :: b) (head ++ ((c :: b) ++ rest) ++ (c :: e) ++ trailer) = some head.length := by
    rw [List.append_assoc, List.append_assoc, List.append_assoc,
      findSub_skip_head c b head _ hh, findSub_prefix_self]
    simp
  have he : findSub (c :: e) (head ++ ((c :: b) ++ rest) ++ (c :: e) ++ trailer) =
      some (head.length + ((c :: b) ++ rest).length) := by
    rw [List.append_assoc, List.append_assoc head, findSub_skip_head c e head _ hh,
      ← List.append_assoc, findSub_after c e _ trailer hend hlast]
    simp [Nat.add_comm]
  simp only [findI, hs, he]
  rw [← List.length_append, pySlice_nat, List.append_assoc, List.take_left, List.drop_left]

def BEGIN : Str := "### ASCCONV BEGIN ".toList
def END : Str := "### ASCCONV END ###".toList

theorem joinNl_last (x : Str) (ls : List Str) : (x ++ '\n' :: joinNl ls).getLast? = some '\n' := by
  induction ls generalizing x with
  | nil => simp [joinNl]
  | cons l ls ih => simpa [joinNl, List.append_assoc] using ih (x ++ '\n' :: l)

theorem markers : BEGIN.head? = some '#' ∧ END.head? = some '#' ∧ '\n' ∉ BEGIN ∧ '\n' ∉ END := by
  decide +kernel

/-- the lines `parse_phoenix_prot` hands to the line parser for a protocol text laid out as
    `head  ### ASCCONV BEGIN <rest of line>\n  line\n … line\n  ### ASCCONV END ###  trailer` -/
theorem parseProt_layout (key : Str) (d : Str)
    (hkey : (key = "MrPhoenixProtocol".toList ∧ d = ['"', '"']) ∨
            (key = "MrProtocol".toList ∧ d = ['"']))
    (head br trailer : Str) (lines : List Str)
    (hh : '#' ∉ head) (hbr : '\n' ∉ br) (hl : ∀ l ∈ lines, '\n' ∉ l)
    (hend : findSub END (BEGIN ++ br ++ '\n' :: joinNl lines) = none) :
    parseProt key (head ++ (BEGIN ++ br ++ '\n' :: joinNl lines) ++ END ++ trailer) =
      protLoop d lines [] := by
  obtain ⟨hB, hE, nB, nE⟩ := markers
  -- the slice between the markers, which both begin with `#`
  have hslice := slice_between '#' BEGIN END head (BEGIN ++ br ++ '\n' :: joinNl lines) trailer
    hB hE hh ⟨br ++ '\n' :: joinNl lines, by simp⟩ hend (fun z hz => by
      rw [joinNl_last (BEGIN ++ br) lines] at hz
      cases hz
      exact nE)
  -- its lines: the rest of the BEGIN line, the lines, and the empty string before END
  have hsplit : splitLines (BEGIN ++ br ++ '\n' :: joinNl lines) = (BEGIN ++ br) :: (lines ++ [[]]) := by
    rw [splitLines_append (BEGIN ++ br) _ (by rw [List.mem_append, not_or]; exact ⟨nB, hbr⟩),
      splitLines_joinNl lines hl]
  have hd : (if key = "MrPhoenixProtocol".toList then some ['"', '"']
      else if key = "MrProtocol".toList then some ['"'] else none) = some d := by
    obtain ⟨hk, rfl⟩ | ⟨hk, rfl⟩ := hkey
    · exact if_pos hk
    · have hne : "MrProtocol".toList ≠ "MrPhoenixProtocol".toList := by decide +kernel
      rw [if_neg fun e => hne (hk.symm.trans e), if_pos hk]
  simp only [parseProt, hd]
  rw [show "### ASCCONV BEGIN ".toList = BEGIN from rfl, show "### ASCCONV END ###".toList = END from rfl,
    hslice, hsplit]
  simp [dropLast]

/-- **the whole protocol**: every line between the markers is parsed, in order; the result is the
    dictionary built from the assignments (or the parse error of the first malformed line, by
    `protLoop_error`) -/
theorem parseProt_render (key : Str) (d : Str)
    (hkey : (key = "MrPhoenixProtocol".toList ∧ d = ['"', '"']) ∨
            (key = "MrProtocol".toList ∧ d = ['"']))
    (head br trailer : Str) (lines : List Str)
    (hh : '#' ∉ head) (hbr : '\n' ∉ br) (hl : ∀ l ∈ lines, '\n' ∉ l)
    (hend : findSub END (BEGIN ++ br ++ '\n' :: joinNl lines) = none)
    (hok : ∀ l ∈ lines, parseLine d l ≠ .parseError) :
    parseProt key (head ++ (BEGIN ++ br ++ '\n' :: joinNl lines) ++ END ++ trailer) =
      .ok (lines.foldl (applyLine d) []) := by
  rw [parseProt_layout key d hkey head br trailer lines hh hbr hl hend, protLoop_ok d lines [] hok]

/-- non-vacuity: a concrete protocol meeting every hypothesis -/
example :
    let lines := ["a = 1".toList, "# c".toList, "b = \"\"x#y\"\" # d".toList]
    '#' ∉ "<XProtocol>\n".toList ∧ '\n' ∉ "###".toList ∧ (∀ l ∈ lines, '\n' ∉ l) ∧
    findSub END (BEGIN ++ "###".toList ++ '\n' :: joinNl lines) = none ∧
    (∀ l ∈ lines, parseLine ['"', '"'] l ≠ .parseError) ∧
    lines.foldl (applyLine ['"', '"']) [] =
      [("a".toList, .int 1), ("b".toList, .str "x#y".toList)] := by
  decide +kernel

end Phx
