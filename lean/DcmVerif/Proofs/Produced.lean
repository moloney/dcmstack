import DcmVerif.Proofs.Chains
/-! C07: validity is closed under every way of combining splits and merges (one key).
`Produced` is the set of key states the library can produce from valid ones: pieces of a slice /
time / vector split of a produced state, and the slice / time / vector merge of produced states.
The three splits and the slice merge cannot fail on produced inputs (`produced_*_ok`), so the set is
closed under these operations themselves, not only under their successful runs. -/
set_option autoImplicit false

namespace Chain
variable {α : Type} [DecidableEq α]

inductive Produced (null : α) : Shp → KeyState α → Prop
  | given (sh : Shp) (ks : KeyState α) : Good sh → ValidK sh ks → Produced null sh ks
  | slicePiece (sh : Shp) (ks : KeyState α) (i : Nat) (p : KeyState α) :
      Produced null sh ks → i < sh.S → subsetSliceK null sh ks i = .ok p →
      Produced null (sliceSubsetShp sh) p
  | timePiece (sh : Shp) (ks : KeyState α) (i : Nat) (p : KeyState α) :
      Produced null sh ks → (sh.nd = 4 ∨ sh.nd = 5) → i < sh.T → subsetTimeK null sh ks i = .ok p →
      Produced null (timeSubsetShp sh) p
  | vecPiece (sh : Shp) (ks : KeyState α) (i : Nat) (p : KeyState α) :
      Produced null sh ks → sh.nd = 5 → i < sh.V → subsetVecK null sh ks i = .ok p →
      Produced null (vecSubsetShp sh) p
  | mergedSlice (sh1 : Shp) (inputs : List (KeyState α)) (r : KeyState α) :
      Good sh1 → inputs ≠ [] → (∀ b, b ∈ inputs → Produced null { sh1 with S := 1 } b) →
      mergeSliceK null sh1 inputs = .ok r →
      Produced null { sh1 with S := inputs.length } r
  | mergedTime (sh1 osh : Shp) (inputs : List (KeyState α)) (r : KeyState α) :
      0 < sh1.S → sh1.hasSlice = true → sh1.nd = 4 → sh1.V = 1 → sh1.hasVector = false →
      sh1.hasTime = true →
      osh.nd = 3 → osh.S = sh1.S → osh.T = 1 → osh.V = 1 → osh.hasSlice = true →
      2 ≤ inputs.length → (∀ b, b ∈ inputs → Produced null osh b) →
      mergeTimeK null sh1 osh inputs = .ok r →
      Produced null { sh1 with T := inputs.length } r
  | mergedVec (sh1 osh : Shp) (inputs : List (KeyState α)) (r : KeyState α) :
      0 < sh1.S → 0 < sh1.T → sh1.hasSlice = true → sh1.nd = 5 → sh1.hasVector = true →
      (sh1.hasTime = true ↔ sh1.T ≠ 1) →
      osh.hasSlice = true → osh.S = sh1.S → osh.T = sh1.T → osh.V = 1 →
      ((osh.nd = 3 ∧ sh1.T = 1) ∨ (osh.nd = 4 ∧ sh1.T ≠ 1)) →
      2 ≤ inputs.length → (∀ b, b ∈ inputs → Produced null osh b) →
      mergeVecK null sh1 osh inputs = .ok r →
      Produced null { sh1 with V := inputs.length } r

/-- **everything the operations produce is valid for a consistent shape** — by induction over the
    way it was produced: any nesting of splits inside merges inside splits …, any number of inputs -/
theorem produced_valid (null : α) (sh : Shp) (ks : KeyState α) (h : Produced null sh ks) :
    Good sh ∧ ValidK sh ks := by
  induction h with
  | given sh ks hg hv => exact ⟨hg, hv⟩
  | slicePiece sh ks i p _ hi hp ih =>
    exact ⟨good_slice sh ih.1, (subsetSlice_den null sh ih.1.1 (Den.self ih.2) i hi hp).1.1⟩
  | timePiece sh ks i p _ h45 hi hp ih =>
    exact ⟨good_time sh ih.1 h45,
      (subsetTime_den null sh ih.1.1 h45 ih.1.2 (Den.self ih.2) i hi hp).1⟩
  | vecPiece sh ks i p _ h5 hi hp ih =>
    exact ⟨good_vec sh ih.1 h5, (subsetVec_den null sh ih.1.1 h5 (Den.self ih.2) i hi hp).1⟩
  | mergedSlice sh1 inputs r hg hne _ hm ih =>
    exact ⟨⟨hg.1.withS (List.length_pos_iff.mpr hne), hg.2⟩,
      (mergeSlice_den null sh1 hg.1 inputs (fun b hb => (ih b hb).2) hm).1⟩
  | mergedTime sh1 osh inputs r hS hsl nd4 v1 hvec htime ond oS oT oV ohsl hn _ hm ih =>
    have hn1 : inputs.length ≠ 1 := by omega
    exact ⟨⟨{ hS := hS, hT := by show 0 < inputs.length; omega, hV := v1 ▸ Nat.one_pos,
              hnd := Or.inr (Or.inl nd4), h3 := fun h => absurd (nd4.symm.trans h) (by decide),
              h4 := fun _ => v1, hsl := hsl,
              htime := ⟨fun _ => ⟨Nat.le_of_eq nd4.symm, hn1⟩, fun _ => htime⟩,
              hvec := ⟨fun h => absurd (hvec ▸ h) nofun, fun h => absurd (nd4.symm.trans h) (by decide)⟩,
              trimmed4 := fun _ => hn1 },
        fun h => absurd (nd4.symm.trans h) (by decide)⟩,
      (mergeTime_den null sh1 osh (timeSetup_of hS hsl nd4 v1 ond oS oT oV ohsl) hvec inputs
        (fun b hb => (ih b hb).2) hm).1⟩
  | mergedVec sh1 osh inputs r hS hT hsl nd5 hvec htime ohsl oS oT oV ond hn _ hm ih =>
    have h45 : sh1.nd ≠ 3 ∧ sh1.nd ≠ 4 := by rw [nd5]; decide
    exact ⟨⟨{ hS := hS, hT := hT, hV := by show 0 < inputs.length; omega,
              hnd := Or.inr (Or.inr nd5), h3 := fun h => absurd h h45.1, h4 := fun h => absurd h h45.2,
              hsl := hsl, htime := htime.trans ⟨fun h => ⟨by rw [nd5]; decide, h⟩, And.right⟩,
              hvec := ⟨fun _ => nd5, fun _ => hvec⟩, trimmed4 := fun h => absurd h h45.2 },
        fun _ => hn⟩,
      (mergeVec_den null sh1 osh (vecSetup_of hS hT hsl nd5 ohsl oS oT oV ond) htime.mp inputs
        (fun b hb => (ih b hb).2) hm).1⟩

/-- the operations cannot fail on produced states -/
theorem produced_slice_ok (null : α) (sh : Shp) (ks : KeyState α) (h : Produced null sh ks)
    (i : Nat) (hi : i < sh.S) :
    ∃ p, subsetSliceK null sh ks i = .ok p ∧ Produced null (sliceSubsetShp sh) p := by
  have hv := produced_valid null sh ks h
  obtain ⟨p, hp, _⟩ := subsetSlice_run null sh hv.1.1 (Den.self hv.2) i hi
  exact ⟨p, hp, .slicePiece sh ks i p h hi hp⟩

theorem produced_time_ok (null : α) (sh : Shp) (ks : KeyState α) (h : Produced null sh ks)
    (h45 : sh.nd = 4 ∨ sh.nd = 5) (i : Nat) (hi : i < sh.T) :
    ∃ p, subsetTimeK null sh ks i = .ok p ∧ Produced null (timeSubsetShp sh) p := by
  have hv := produced_valid null sh ks h
  obtain ⟨p, hp, _⟩ := subsetTime_run null sh hv.1.1 h45 hv.1.2 (Den.self hv.2) i hi
  exact ⟨p, hp, .timePiece sh ks i p h h45 hi hp⟩

theorem produced_vec_ok (null : α) (sh : Shp) (ks : KeyState α) (h : Produced null sh ks)
    (h5 : sh.nd = 5) (i : Nat) (hi : i < sh.V) :
    ∃ p, subsetVecK null sh ks i = .ok p ∧ Produced null (vecSubsetShp sh) p := by
  have hv := produced_valid null sh ks h
  obtain ⟨p, hp, _⟩ := subsetVec_run null sh hv.1.1 h5 (Den.self hv.2) i hi
  exact ⟨p, hp, .vecPiece sh ks i p h h5 hi hp⟩

theorem produced_mergeSlice_ok (null : α) (sh1 : Shp) (hg : Good sh1)
    (a : KeyState α) (rest : List (KeyState α))
    (hin : ∀ b, b ∈ a :: rest → Produced null { sh1 with S := 1 } b) :
    ∃ r, mergeSliceK null sh1 (a :: rest) = .ok r ∧
      Produced null { sh1 with S := (a :: rest).length } r := by
  obtain ⟨r, hr, _⟩ := mergeSlice_run null sh1 hg.1 (a :: rest) (List.cons_ne_nil _ _)
    fun b hb => (produced_valid null _ b (hin b hb)).2
  exact ⟨r, hr, .mergedSlice sh1 (a :: rest) r hg (List.cons_ne_nil _ _) hin hr⟩

end Chain
