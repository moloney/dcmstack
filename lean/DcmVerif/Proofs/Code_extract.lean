import DcmVerif.Generated.Code_extract
/-! The default ignore rules of `MetaExtractor` as translated from extract.py are the model's. -/
set_option autoImplicit false

namespace Src
open Ex

theorem and_bitfield (g k n : Nat) : g &&& (2 ^ n - 1) * 2 ^ k = g / 2 ^ k % 2 ^ n * 2 ^ k := by
  apply Nat.eq_of_testBit_eq
  intro i
  -- bit `i` of either side is bit `i` of `g` when `k ≤ i < k + n`, and clear otherwise
  simp only [Nat.testBit_and, Nat.testBit_mul_two_pow, Nat.testBit_two_pow_sub_one,
    Nat.testBit_mod_two_pow, Nat.testBit_div_two_pow]
  by_cases h : k ≤ i
  · rw [Nat.sub_add_cancel h]
    simp [h, Bool.and_comm]
  · simp [h]

/-- `g & 0xff00 == 0x6000` selects the groups 0x6000 … 0x60ff, for every 16-bit group number -/
theorem overlay_mask (g : Nat) (h : g < 65536) : ((g &&& 65280 == 24576) = (g / 256 == 96)) := by
  rw [show (65280 : Nat) = (2 ^ 8 - 1) * 2 ^ 8 from rfl, and_bitfield, Bool.eq_iff_iff, beq_iff_eq,
    beq_iff_eq]
  omega

/-- **`ignore_private` as written in extract.py is the model's `ignorePrivate`** -/
theorem ignore_private_eq (e : Elem) : Py.ignore_private e = .ok (ignorePrivate e) := by
  unfold Py.ignore_private ignorePrivate
  cases e.group % 2 == 1 <;> rfl

/-- **`ignore_pixel_data` as written in extract.py is the model's `ignorePixel`** (the element numbers are the extracted table) -/
theorem ignore_pixel_data_eq (e : Elem) : Py.ignore_pixel_data e = .ok (ignorePixel e) := by
  -- the source lists the element numbers in another order than the table
  have : [16, 8, 9].contains e.elem = Gen.pixelDataElems.contains e.elem := by
    rw [Bool.eq_iff_iff]
    simp only [Gen.pixelDataElems, List.contains_iff_mem, List.mem_cons, List.not_mem_nil, or_false]
    omega
  unfold Py.ignore_pixel_data ignorePixel
  rw [this]
  rfl

/-- **`ignore_overlay_data` as written in extract.py is the model's `ignoreOverlay`**, for every 16-bit group number -/
theorem ignore_overlay_data_eq (e : Elem) (hg : e.group < 65536) : Py.ignore_overlay_data e = .ok (ignoreOverlay e) := by
  unfold Py.ignore_overlay_data ignoreOverlay
  rw [overlay_mask e.group hg]
  rfl

/-- **`ignore_color_lut_data` as written in extract.py is the model's `ignoreLut`** -/
theorem ignore_color_lut_data_eq (e : Elem) : Py.ignore_color_lut_data e = .ok (ignoreLut e) := rfl

end Src
