import DcmVerif.Generated.Code_header
import DcmVerif.Model.Header
import DcmVerif.Proofs.CodeLemmas
/-! The slice-timing block and the repetition-time / `dim_info` block of `DicomStack.to_nifti` as translated from dcmstack.py are the model's `Stk.sliceTimesOf`, `Stk.trOf` and `Stk.dimInfoOf`. -/
set_option autoImplicit false

namespace Src
open Stk

theorem mapM_pyGetKey : ∀ (l : List (Option Int)), l.all Option.isSome = true →
    l.mapM pyGetKey = (.ok (l.map fun x => x.getD 0) : Except PyErr (List Int))
  | [], _ => rfl
  | none :: _, h => by cases h
  | some a :: xs, h => by
    rw [List.mapM_cons, mapM_pyGetKey xs h]
    rfl

theorem vol_reads (n : Nat) (files : List (Option Int)) (hall : files.all Option.isSome = true)
    (hn : 0 < n) (v : Nat) (hlen : (v + 1) * n ≤ files.length) :
    List.mapM pyGetKey (List.take n (List.drop (v * n) files)) =
        .ok (volTimes n v (files.map fun x => x.getD 0)) ∧
      npMin (volTimes n v (files.map fun x => x.getD 0)) =
        .ok (minOf (volTimes n v (files.map fun x => x.getD 0))) := by
  have hvol : List.map (fun x : Option Int => x.getD 0) (List.take n (List.drop (v * n) files)) =
      volTimes n v (files.map fun x => x.getD 0) := by
    rw [volTimes, List.map_take, List.map_drop]
  constructor
  · rw [mapM_pyGetKey, hvol]
    exact List.all_eq_true.mpr fun x hx =>
      List.all_eq_true.mp hall x (List.mem_of_mem_drop (List.mem_of_mem_take hx))
  · -- the volume is not empty
    cases h : volTimes n v (files.map fun x => x.getD 0) with
    | cons => rfl
    | nil =>
      have := congrArg List.length h
      rw [Nat.succ_mul] at hlen
      simp [volTimes] at this
      omega

theorem consistentFrom_eq_all (n : Nat) (first acq : List Int) : ∀ (k v : Nat),
    consistentFrom n first acq v k =
      (List.range' v k).all fun vol => relTimes (volTimes n vol acq) == first
  | 0, _ => rfl
  | k + 1, v => by
    rw [consistentFrom, consistentFrom_eq_all n first acq k, List.range'_succ, List.all_cons]

theorem any_ne_zero_eq : ∀ (l : List Int), (l.any fun x => decide (x ≠ 0)) = !(l.all fun x => x == 0)
  | [] => rfl
  | x :: xs => by
    simp only [List.any_cons, List.all_cons, any_ne_zero_eq xs, Bool.not_and]
    by_cases h : x = 0 <;> simp [h]

/-- **the slice-timing block of `to_nifti` as written in dcmstack.py is the model's `sliceTimesOf`**, for a file list that holds
    `nVols` volumes of `n > 0` slices -/
theorem header_slice_times_eq (fpv nVols n : Nat) (files : List (Option Int))
    (hn : 0 < n) (hv : 0 < nVols) (hlen : files.length = nVols * n) :
    Py.header_slice_times fpv nVols n files = .ok (sliceTimesOf fpv nVols n files) := by
  unfold Py.header_slice_times sliceTimesOf
  by_cases hc : 1 < fpv ∧ files.all Option.isSome = true
  · obtain ⟨h1, hall⟩ := hc
    have hreads : ∀ v, v < nVols → _ := fun v hvn =>
      vol_reads n files hall hn v (hlen ▸ Nat.mul_le_mul_right n hvn)
    have hfirst := hreads 0 hv
    rw [Nat.zero_mul, List.drop_zero] at hfirst
    have hc' : (decide (fpv > 1) && files.all fun x_ => x_.isSome) = true := by simp [h1, hall]
    have hrel : ∀ l : List Int, List.map (fun x_ => x_ - minOf l) l = relTimes l := fun _ => rfl
    rw [if_pos (show 1 < fpv ∧ files.all Option.isSome = true from ⟨h1, hall⟩)]
    simp only [hc', if_true, hfirst, ok_bind', hrel]
    -- the loop over the later volumes, its body read off the goal
    rw [forIn_exit (fun vol => relTimes (volTimes n vol (files.map fun x => x.getD 0)) ==
      relTimes (volTimes n 0 (files.map fun x => x.getD 0))) false _ _ _ ?body, ← consistentFrom_eq_all]
    case body =>
      intro vol hvol
      obtain ⟨_, hlt⟩ := List.mem_range'_1.mp hvol
      simp only [Nat.add_sub_cancel_left, hreads vol (by omega), ok_bind', hrel]
      by_cases he : relTimes (volTimes n vol (files.map fun x => x.getD 0)) =
          relTimes (volTimes n 0 (files.map fun x => x.getD 0))
      · simp [he, pure, Except.pure]
      · simp [he, Ne.symm he, pure, Except.pure]
    simp only [ok_bind', any_ne_zero_eq]
    cases consistentFrom n _ _ 1 (nVols - 1) <;>
      cases (relTimes (volTimes n 0 (files.map fun x => x.getD 0))).all (fun x_ => x_ == 0) <;> rfl
  · have hc' : (decide (fpv > 1) && files.all fun x_ => x_.isSome) = false :=
      (Bool.not_eq_true _).mp fun h => hc (((Bool.and_eq_true _ _).mp h).imp of_decide_eq_true id)
    simp only [hc', Bool.false_eq_true, if_false, hc]
    rfl

/-- the test `len(s) == 1 and None not in s` holds of the lists `[some x]` only -/
theorem single_cases {β : Type} [DecidableEq β] (l : List (Option β)) :
    (∃ x, l = [some x]) ∨ ((l.length == 1 && !l.contains none) = false ∧ ∀ x, l ≠ [some x]) := by
  match l with
  | [] => exact .inr ⟨rfl, fun _ h => by cases h⟩
  | [none] => exact .inr ⟨by simp, fun _ h => by cases h⟩
  | [some x] => exact .inl ⟨x, rfl⟩
  | _ :: _ :: _ => exact .inr ⟨by simp, fun _ h => by cases h⟩

theorem trOf_of_ne {trs : List (Option Int)} (h : ∀ x, trs ≠ [some x]) : trOf trs = none := by
  unfold trOf
  split
  · exact absurd rfl (h _)
  · rfl

theorem dimInfoOf_of_ne {pes : List (Option Nat)} (h : ∀ d, pes ≠ [some d]) (perm : List Nat) :
    dimInfoOf pes perm = (none, none, perm[2]?) := by
  unfold dimInfoOf
  split
  · exact absurd rfl (h _)
  · rfl

/-- **the repetition time and `dim_info` that `to_nifti` writes, as in dcmstack.py, are the model's `trOf` / `dimInfoOf`** (for a
    permutation of the three spatial axes; the slice axis is `permutation[2]`) -/
theorem header_dim_info_eq (trs : List (Option Int)) (pes : List (Option Nat)) (a b c : Nat) :
    Py.header_dim_info trs pes [a, b, c] c =
      .ok (trOf trs, (dimInfoOf pes [a, b, c]).1, (dimInfoOf pes [a, b, c]).2.1, (dimInfoOf pes [a, b, c]).2.2) := by
  unfold Py.header_dim_info
  -- each of the two sets is a single known value or fails the test
  rcases single_cases trs with ⟨x, rfl⟩ | ⟨hT, hT'⟩ <;>
    rcases single_cases pes with ⟨d, rfl⟩ | ⟨hP, hP'⟩
  · by_cases hd : d = 0 <;> simp [trOf, dimInfoOf, pyGet, hd, bind, Except.bind, pure, Except.pure]
  · simp only [hP]
    simp [trOf, dimInfoOf_of_ne hP', pyGet, bind, Except.bind, pure, Except.pure]
  · simp only [hT]
    by_cases hd : d = 0 <;>
      simp [trOf_of_ne hT', dimInfoOf, pyGet, hd, bind, Except.bind, pure, Except.pure]
  · simp only [hT, hP]
    simp [trOf_of_ne hT', dimInfoOf_of_ne hP', pure, Except.pure]

/-! the translated block computes (tests, not theorems): consistent interleaved timing, a deviating middle volume, a file
    without a time -/
example : Py.header_slice_times 2 3 2 [some 10, some 30, some 110, some 130, some 210, some 230] = .ok (some [0, 20]) := by rfl
example : Py.header_slice_times 2 3 2 [some 10, some 30, some 130, some 110, some 210, some 230] = .ok none := by rfl
example : Py.header_slice_times 2 3 2 [some 10, none, some 110, some 130, some 210, some 230] = .ok none := by rfl

end Src
