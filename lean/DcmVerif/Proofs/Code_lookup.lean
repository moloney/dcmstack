import DcmVerif.Generated.Code_lookup
import DcmVerif.Proofs.CodeLemmas
/-! `meta_valid`, the index block of `get_meta` and `get_meta` as a whole, as translated from dcmmeta.py, are the model's `metaValid`, the lookup of `getMeta` and `getMeta`. -/
set_option autoImplicit false
open Cls

namespace Src
variable {α κ : Type}

/-! ### the index block of `get_meta` -/

def inRangeFrom (shape : List Nat) : List Nat → Nat → Bool
  | [], _ => true
  | i :: is, k => decide (i < shape[k]!) && inRangeFrom shape is (k + 1)

theorem inRangeFrom_eq_all (shape : List Nat) : ∀ (index : List Nat) (k : Nat),
    inRangeFrom shape index k = (index.zipIdx k).all fun x => decide (x.1 < shape[x.2]!)
  | [], k => rfl
  | i :: is, k => by simp only [List.zipIdx_cons, List.all_cons, inRangeFrom, inRangeFrom_eq_all shape is (k + 1)]

theorem bounds_loop (shape : List Nat) : ∀ (index : List Nat) (k : Nat) (u : PUnit),
    (forIn (m := Except PyErr) (index.zipIdx k) u fun (x : Nat × Nat) (__s : PUnit) =>
        match x with
        | (ind_val, dim) =>
          if (!(decide (0 ≤ ind_val) && decide (ind_val < shape[dim]!))) = true then do
            throw PyErr.indexError
            pure (ForInStep.yield PUnit.unit)
          else pure (ForInStep.yield PUnit.unit)) =
      if inRangeFrom shape index k then .ok PUnit.unit else .error PyErr.indexError := by
  intro index k u
  rw [inRangeFrom_eq_all]
  refine forIn_guard_unit PyErr.indexError _ _ _ ?_
  rintro ⟨i, d⟩ _ _
  simp only [throw_bind', Nat.zero_le, decide_true, Bool.true_and]
  exact guard_pure

def toGetOut : Except PyErr (Option α) → GetOut α
  | .ok (some a) => .value a
  | .ok none => .dflt
  | .error _ => .indexError

theorem toGetOut_idx (vals : List α) (j : Nat) :
    toGetOut (pyIndex vals j >>= fun v => pure (some v)) = GetOut.ofIdx vals[j]? := by
  unfold pyIndex
  cases vals[j]? <;> rfl

theorem inRangeFrom_zip (shape : List Nat) : ∀ (idx : List Nat) (k : Nat), idx.length + k = shape.length →
    inRangeFrom shape idx k = (List.zip idx (shape.drop k)).all (fun p => decide (p.1 < p.2))
  | [], k, _ => by simp [inRangeFrom]
  | i :: is, k, h => by
    have hk : k < shape.length := by simp at h; omega
    have hd : shape.drop k = shape[k] :: shape.drop (k + 1) := (List.drop_eq_getElem_cons hk)
    rw [hd]
    simp only [inRangeFrom, List.zip_cons_cons, List.all_cons]
    rw [inRangeFrom_zip shape is (k + 1) (by simp at h ⊢; omega)]
    simp [hk]

/-- the `for idx_val, count in enumerate(index[3:])` loop of the `('global', 'slices')` branch: from the slice index `v` and
    `n` slices to the position of the slice in the whole series -/
theorem slices_loop (shape idx : List Nat) (hl : idx.length = shape.length) (h5 : shape.length ≤ 5) (n v : Nat) :
    ((idx.drop 3).zipIdx.foldl (fun s x => (s.1 * shape[x.2 + 3]!, s.2 + x.1 * s.1)) (n, v)).2 =
      v + n * (idx.getD 3 0 + shape.getD 3 1 * idx.getD 4 0) := by
  have h3 : idx.getD 3 0 = (idx.drop 3).getD 0 0 := by simp
  have h4 : idx.getD 4 0 = (idx.drop 3).getD 1 0 := by simp
  have hr : (idx.drop 3).length = shape.length - 3 := by simp [hl]
  rw [h3, h4]
  generalize idx.drop 3 = r at hr
  match r, hr with
  | [], _ => simp
  | [t], _ => simp [Nat.mul_comm]
  | [t, w], hr =>
    have : 3 < shape.length := by simp at hr; omega
    simp [this, Nat.mul_comm, Nat.mul_left_comm, Nat.left_distrib, Nat.add_assoc]
  | _ :: _ :: _ :: _, hr => simp at hr; omega

theorem get_meta_index_eq (shape idx : List Nat) (sd : Nat) (al : Bool) (e : ExtGeom) (cl : Cls) (vals : List α)
    (h3 : 3 ≤ shape.length) (h5 : shape.length ≤ 5) (hsd3 : sd < 3) (hc : cl ≠ gconst)
    (hvalid : metaValid e ⟨shape, some sd, al⟩ cl = true) :
    toGetOut (Py.get_meta_index shape sd cl vals idx) =
      getMeta e ⟨shape, some sd, al⟩ (some (cl, vals)) (some idx) := by
  -- `↓`: the bounds loop is rewritten before `simp` puts its body into a normal form of its own
  simp only [Py.get_meta_index, getMeta, hc, if_false, hvalid, Bool.not_true, Bool.false_eq_true, throw_bind', ↓bounds_loop]
  by_cases hl : idx.length = shape.length
  case neg => simp [hl, toGetOut]
  rw [inRangeFrom_zip shape idx 0 (by simpa using hl)]
  by_cases hr : (List.zip idx shape).all (fun p => decide (p.1 < p.2)) = true
  case neg => simp [hl, hr, toGetOut, bind, Except.bind]
  simp only [hl, hr, List.drop_zero, bne_self_eq_false, ne_eq, not_true_eq_false, Bool.false_eq_true, if_false, if_true,
    Bool.not_true, ok_bind']
  -- the code reads `shape[slice_dim]`, `shape[3]`, the model the same with a default for a missing axis
  have hS : shape[sd]! = shape.getD sd 1 := by simp [show sd < shape.length by omega]
  cases cl
  case gconst => exact absurd rfl hc
  all_goals simp only [reduceCtorEq, beq_iff_eq, ↓reduceIte]
  case gslices =>
    rw [forIn_yield, ok_bind', toGetOut_idx, slices_loop shape idx hl h5, hS]
    simp
  case tsamples =>
    split
    · rw [toGetOut_idx, show shape[3]! = shape.getD 3 1 by simp [show 3 < shape.length by omega]]
      simp [Nat.mul_comm]
    · rw [toGetOut_idx]
      simp [show idx.length ≤ 4 by omega]
  case tslices | vsamples => rw [toGetOut_idx]; simp
  case vslices =>
    rw [toGetOut_idx, hS]
    simp [Nat.mul_comm]

/-! ### `meta_valid` -/

/-- **`meta_valid` as written in dcmmeta.py is the model's `metaValid`** (the header reads and the
    comparison of the slice directions are the same parameters on both sides); slice dims in range,
    and a fourth axis on both sides where `('vector', 'slices')` reads it -/
theorem meta_valid_eq (e : ExtGeom) (img : Img) (c : Cls)
    (hisd : ∀ d, img.sliceDim = some d → d < img.shape.length)
    (hesd : ∀ d, e.sliceDim = some d → d < e.shape.length)
    (h4 : c = vslices → 3 < e.shape.length ∧ 3 < img.shape.length) :
    Py.meta_valid img.shape e.shape img.sliceDim (e.sliceDim.map fun d => e.shape[d]!) img.aligned c =
      .ok (metaValid e img c) := by
  simp only [Py.meta_valid, metaValid]
  cases hi : img.sliceDim with
  | none => cases c <;> rfl
  | some isd =>
    cases he : e.sliceDim with
    | none => cases c <;> rfl
    | some esd =>
      -- both slice counts are read inside the shapes
      have hn : (some e.shape[esd]! != some img.shape[isd]!) = !(e.shape[esd]? == img.shape[isd]?) := by
        simp [bne, hisd _ hi, hesd _ he]
      simp only [Option.map_some, hn]
      cases e.shape[esd]? == img.shape[isd]?
      · cases c <;> rfl
      · cases c
        case vslices => simp [h4 rfl]; rfl
        all_goals rfl

/-! ### `get_meta`, the whole method -/

theorem get_meta_unfold (ishape eshape : List Nat) (sd : Nat) (mns : Option Nat) (al : Bool) (vals : List α) (c : Cls)
    (idx : List Nat) :
    Py.get_meta ishape eshape (some sd) mns al vals (some c) (some idx) =
      (if (c == gconst) = true then pure vals.head?
       else do
        let v ← Py.meta_valid ishape eshape (some sd) mns al c
        if (!v) = true then pure none else Py.get_meta_index ishape sd c vals idx) := by
  unfold Py.get_meta Py.get_meta_index
  by_cases hc : (c == gconst) = true
  · simp [hc]
  · simp only [hc]
    rfl

/-- **`get_meta` as written in dcmmeta.py is the model's `getMeta`**: an absent key and a classification that is not valid for the
    image give the default, a constant its value whatever the index, every other key the value at the position the index
    arithmetic of its classification computes — or IndexError for an index of the wrong length or out of bounds -/
theorem get_meta_eq (e : ExtGeom) (shape : List Nat) (sd : Nat) (al : Bool) (ks : KeyState α) (index : Option (List Nat))
    (h3 : 3 ≤ shape.length) (h5 : shape.length ≤ 5) (hsd3 : sd < 3)
    (hesd : ∀ d, e.sliceDim = some d → d < e.shape.length)
    (h4 : ∀ c v, ks = some (c, v) → c = vslices → 3 < e.shape.length ∧ 3 < shape.length) :
    toGetOut (Py.get_meta shape e.shape (some sd) (e.sliceDim.map fun d => e.shape[d]!) al
        (match ks with | some (_, v) => v | none => []) (ks.map (·.1)) index) =
      getMeta e ⟨shape, some sd, al⟩ ks index := by
  cases ks with
  | none => cases index <;> rfl
  | some cv =>
    obtain ⟨c, vals⟩ := cv
    have hmv := meta_valid_eq e ⟨shape, some sd, al⟩ c (by intro d hd; simp at hd; show d < shape.length; omega) hesd (h4 c vals rfl)
    simp only [Option.map_some]
    by_cases hc : c = gconst
    · subst hc
      cases index <;> (simp [Py.get_meta, getMeta, toGetOut]; cases vals.head? <;> rfl)
    · have hcb : (c == gconst) = false := beq_false_of_ne hc
      cases index with
      | none =>
        simp only [Py.get_meta, getMeta, hc, hcb, if_false, Bool.false_eq_true, hmv, ok_bind']
        cases metaValid e ⟨shape, some sd, al⟩ c <;> rfl
      | some idx =>
        rw [get_meta_unfold]
        simp only [hcb, Bool.false_eq_true, if_false, hmv, ok_bind']
        cases hv : metaValid e ⟨shape, some sd, al⟩ c
        · simp [getMeta, hc, hv, toGetOut]
          rfl
        · simp only [Bool.not_true, Bool.false_eq_true, if_false]
          exact get_meta_index_eq shape idx sd al e c vals h3 h5 hsd3 hc hv

end Src
