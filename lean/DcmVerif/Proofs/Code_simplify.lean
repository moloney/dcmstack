import DcmVerif.Generated.Code_simplify
import DcmVerif.Proofs.Code_classes
/-! `is_constant`, `is_repeating`, `_get_const_period` and `_simplify` (the whole method, for one key) as translated from dcmmeta.py are the model's `pyIsConstant`, `pyIsRepeating`, `constPeriod` and `simplifyK`. -/
set_option autoImplicit false
open Cls

namespace Src
variable {α κ : Type}

def errOf {β : Type} : Except Err β → Except PyErr β
  | .ok b => .ok b
  | .error _ => .error PyErr.valueError

/-- **`is_constant` as written in dcmmeta.py is the model's `pyIsConstant`** (guards and result), for
    every list and period -/
theorem is_constant_eq [DecidableEq α] (l : List α) (p : Option Nat) :
    Py.is_constant l p = errOf (pyIsConstant l p) := by
  cases p with
  | none => cases l <;> simp [Py.is_constant, pyIsConstant, isConstantAll, errOf] <;> rfl
  | some p =>
    simp only [Py.is_constant, pyIsConstant, isConstantP, throw_bind', Nat.add_sub_cancel_left, forIn_search, ok_bind']
    by_cases h1 : p ≤ 1
    · simp [h1, errOf]
    by_cases h2 : l.length % p = 0
    · simp only [h1, h2, decide_false, Bool.false_eq_true, if_false, bne_self_eq_false, ne_eq, not_true_eq_false, errOf]
      generalize List.all (List.range _) _ = found
      cases found <;> rfl
    · simp [h1, h2, errOf]

theorem range_all_skip0 (Q : Nat → Bool) (k : Nat) (h0 : Q 0 = true) :
    (List.range' 1 (k - 1)).all Q = (List.range k).all Q := by
  cases k with
  | zero => simp
  | succ n =>
    rw [List.range_eq_range', List.range'_succ]
    simp [h0]

/-- **`is_repeating` as written in dcmmeta.py is the model's `pyIsRepeating`** -/
theorem is_repeating_eq [DecidableEq α] (l : List α) (p : Nat) :
    Py.is_repeating l p = errOf (pyIsRepeating l p) := by
  simp only [Py.is_repeating, pyIsRepeating, isRepeatingP, throw_bind', Nat.add_sub_cancel_left, bne, forIn_search, ok_bind']
  by_cases h1 : p ≤ 1 ∨ p ≥ l.length
  · simp [h1, errOf]
  by_cases h2 : l.length % p = 0
  · rw [range_all_skip0 (fun b => (l.drop (b * p)).take p == l.take p) _ (by simp)]
    simp only [h1, h2, ← Bool.decide_or, decide_false, Bool.false_eq_true, if_false, beq_self_eq_true, Bool.not_true, ne_eq,
      not_true_eq_false, errOf]
    generalize List.all (List.range _) _ = found
    cases found <;> rfl
  · simp [h1, h2, errOf]

theorem get_const_period_of {shape : List Nat} {n : Option Nat} {sh : Shp} (h : ShpOf shape n sh)
    (h3 : 3 ≤ shape.length) (h5 : shape.length ≤ 5) (hsl : sh.hasSlice = true) (src dest : Cls)
    (hs : src ∈ validClasses sh) (hd : dest ∈ validClasses sh) (htab : dest ∈ constTests src) :
    Py.get_const_period shape n src dest = .ok (constPeriod sh src dest) := by
  obtain rfl : n = some sh.S := by rw [h.n_slices, if_pos hsl]
  have hm := get_multiplicity_of h h3 h5
  -- a valid time class has a fourth axis; `↓hT` rewrites `shape[3]!` before `simp` gives it a normal form of its own
  have hT : src = tsamples → shape[3]! = sh.T := fun hsrc => h.getT ((h.lt_length h3 hs).1 (by simp [hsrc, Cls.base]))
  cases src <;> cases dest <;> simp [constTests] at htab <;>
    simp [Py.get_const_period, constPeriod, hm, hs, hd, ↓hT] <;> rfl

/-- **`_get_const_period` as written in dcmmeta.py is the model's `constPeriod`** on every entry of
    the `_const_tests` table whose classes are valid for the shape -/
theorem get_const_period_eq (e : DExt κ α) (h3 : 3 ≤ e.shape.length) (h5 : e.shape.length ≤ 5)
    (hsl : e.sliceDim.isSome = true) (src dest : Cls) (hs : src ∈ validClasses e.shp)
    (hd : dest ∈ validClasses e.shp) (htab : dest ∈ constTests src) :
    Py.get_const_period e.shape (e.sliceDim.map fun d => e.shape.getD d 1) src dest =
      .ok (constPeriod e.shp src dest) :=
  get_const_period_of (shpOf_shp e none) h3 h5 hsl src dest hs hd htab

/-! ### `_simplify` -/

/-- the base names present in `_content` -/
def contentOf (e : DExt κ α) : List String :=
  ["global"] ++ (if e.hasTime then ["time"] else []) ++ (if e.hasVector then ["vector"] else [])

theorem content_contains (e : DExt κ α) (sdArg : Option Nat) (d : Cls) :
    (contentOf e).contains d.base = basePresent (e.shp sdArg) d :=
  bases_contains e sdArg d

/-- what the model's outcome of `_simplify` means for the dictionaries -/
def fxOf (c : Cls) : SimpOut α → Bool × KeyFx α
  | .unchanged => (false, [])
  | .deleted => (true, [KeyOp.del c])
  | .moved d v => (true, [KeyOp.write d v, KeyOp.del c])

theorem nat_beq_comm (a b : Nat) : (a == b) = (b == a) := BEq.comm

section simplify_loops
variable [DecidableEq α]

/-- the test `period == 1 or is_constant(values, period)` of the first loop -/
theorem constHit_eq (vals : List α) (p : Option Nat) :
    (if (p == some 1) = true then pure true else Py.is_constant vals p) =
      errOf (if p = some 1 then .ok true else pyIsConstant vals p) := by
  by_cases h : p = some 1 <;> simp [h, is_constant_eq, errOf]
  rfl

/-- the test `dest_mult == len(values) or is_repeating(values, dest_mult)` of the second loop -/
theorem repeatHit_eq (vals : List α) (dm : Nat) :
    (if (dm == vals.length) = true then pure true else Py.is_repeating vals dm) = errOf (repeatHit vals dm) := by
  by_cases h : dm = vals.length <;> simp [repeatHit, h, is_repeating_eq, errOf]
  rfl

/-- the body of the first loop of `_simplify` (constant with some period?) -/
def constBody (e : DExt κ α) (c : Cls) (vals : List α) (dest : Cls) (s : KeyFx α × Bool) :
    Except PyErr (ForInStep (KeyFx α × Bool)) :=
  if basePresent e.shp dest = true then do
    let p ← Py.get_const_period e.shape (e.sliceDim.map fun d => e.shape.getD d 1) c dest
    let hit ← (if (p == some 1) = true then pure true else Py.is_constant vals p)
    if hit = true then
      match p with
      | none => pure (ForInStep.done (s.fst.write dest vals.head?.toList, true))
      | some period => pure (ForInStep.done (s.fst.write dest (pyStep vals 0 period), true))
    else pure (ForInStep.yield (s.fst, s.snd))
  else pure (ForInStep.yield (s.fst, s.snd))

theorem constLoop_forIn (e : DExt κ α) (h3 : 3 ≤ e.shape.length) (h5 : e.shape.length ≤ 5)
    (hsl : e.sliceDim.isSome = true) (hbase : ∀ d, basePresent e.shp d = true → d ∈ validClasses e.shp)
    (c : Cls) (hc : c ∈ validClasses e.shp) (vals : List α)
    (f : Cls → KeyFx α × Bool → Except PyErr (ForInStep (KeyFx α × Bool))) (fx0 : KeyFx α) :
    ∀ (l : List Cls), (∀ d ∈ l, d ∈ constTests c) → (∀ x ∈ l, ∀ s, f x s = constBody e c vals x s) →
    forIn l (fx0, false) f =
      match constLoop e.shp c vals l with
      | .error _ => .error PyErr.valueError
      | .ok (some (d, v)) => .ok (fx0.write d v, true)
      | .ok none => .ok (fx0, false)
  | [], _, _ => by simp [constLoop]; rfl
  | x :: xs, htab, hf => by
    have ih := constLoop_forIn e h3 h5 hsl hbase c hc vals f fx0 xs (fun d hd => htab d (by simp [hd]))
      (fun y hy s => hf y (by simp [hy]) s)
    rw [List.forIn_cons, hf x (by simp), constBody, constLoop]
    by_cases hb : basePresent e.shp x = true
    · rw [get_const_period_eq e h3 h5 hsl c x hc (hbase x hb) (htab x (by simp))]
      simp only [hb, if_true, ok_bind', constHit_eq]
      generalize (if constPeriod e.shp c x = some 1 then _ else _ : Except Err Bool) = hit
      cases hit with
      | error er => rfl
      | ok b =>
        cases b
        · exact ih
        · cases constPeriod e.shp c x <;> simp [errOf, pyStep_eq] <;> rfl
    · simp only [hb, Bool.false_eq_true, if_false, pure_bind]
      exact ih

/-- the body of the second loop of `_simplify` (repeating with the multiplicity of a smaller class?) -/
def repeatBody (e : DExt κ α) (vals : List α) (dest : Cls) (s : KeyFx α × Bool) :
    Except PyErr (ForInStep (KeyFx α × Bool)) :=
  if basePresent e.shp dest = true then do
    let dm ← Py.get_multiplicity e.shape (e.sliceDim.map fun d => e.shape.getD d 1) dest
    let hit ← (if (dm == vals.length) = true then pure true else Py.is_repeating vals dm)
    if hit = true then pure (ForInStep.done (s.fst.write dest (List.take dm vals), true))
    else pure (ForInStep.yield (s.fst, s.snd))
  else pure (ForInStep.yield (s.fst, s.snd))

theorem repeatLoop_forIn (e : DExt κ α) (h3 : 3 ≤ e.shape.length) (h5 : e.shape.length ≤ 5)
    (hbase : ∀ d, basePresent e.shp d = true → d ∈ validClasses e.shp) (vals : List α)
    (f : Cls → KeyFx α × Bool → Except PyErr (ForInStep (KeyFx α × Bool))) (fx0 : KeyFx α) :
    ∀ (l : List Cls), (∀ x ∈ l, ∀ s, f x s = repeatBody e vals x s) →
    forIn l (fx0, false) f =
      match repeatLoop e.shp vals l with
      | .error _ => .error PyErr.valueError
      | .ok (some (d, v)) => .ok (fx0.write d v, true)
      | .ok none => .ok (fx0, false)
  | [], _ => by simp [repeatLoop]; rfl
  | x :: xs, hf => by
    have ih := repeatLoop_forIn e h3 h5 hbase vals f fx0 xs (fun y hy s => hf y (by simp [hy]) s)
    rw [List.forIn_cons, hf x (by simp), repeatBody, repeatLoop]
    by_cases hb : basePresent e.shp x = true
    · rw [get_multiplicity_eq e h3 h5 x (hbase x hb)]
      simp only [hb, if_true, ok_bind', repeatHit_eq]
      cases repeatHit vals (mult e.shp x) with
      | error er => rfl
      | ok b => cases b <;> first | exact ih | rfl
    · simp only [hb, Bool.false_eq_true, if_false, pure_bind]
      exact ih

end simplify_loops

/-- **`_simplify` as written in dcmmeta.py is the model's `simplifyK`** for one key of an extension with a slice dimension
    whose base dictionaries are the ones valid for its shape: the same Boolean, the same edits (`fxOf`), and `ValueError` exactly
    when the model's list tests reject their arguments -/
theorem simplify_eq [DecidableEq α] (null : α) (e : DExt κ α) (h3 : 3 ≤ e.shape.length) (h5 : e.shape.length ≤ 5)
    (hsl : e.sliceDim.isSome = true) (hbase : ∀ d, basePresent e.shp d = true → d ∈ validClasses e.shp)
    (c : Cls) (hc : c ∈ validClasses e.shp) (vals : List α) :
    Py.simplify null e.shape (e.sliceDim.map fun d => e.shape.getD d 1) (contentOf e) vals c =
      errOf ((simplifyK null e.shp c vals).map (fxOf c)) := by
  have hcc := content_contains e none
  by_cases hg : c = gconst
  · subst hg
    by_cases hv : vals = [null] <;> simp [Py.simplify, simplifyK, hv, errOf, fxOf, Except.map, KeyFx.del] <;> rfl
  · have hne : (c == gconst) = false := beq_false_of_ne hg
    have hkeys : Gen.repeatTestsKeys.contains c = false → repeatTests c = [] := by
      cases c <;> simp [Gen.repeatTestsKeys, repeatTests]
    simp only [Py.simplify, simplifyK, hne, hg, hcc, Bool.false_eq_true, if_false]
    rw [constLoop_forIn e h3 h5 hsl hbase c hc vals _ _ (constTests c) (fun d hd => hd) ?hf1]
    case hf1 => exact fun _ _ _ => rfl
    cases h1 : constLoop e.shp c vals (constTests c) with
    | error er => simp [errOf, Except.map, bind, Except.bind]
    | ok r =>
      cases r with
      | some dv =>
        obtain ⟨d, v⟩ := dv
        simp [errOf, Except.map, fxOf, KeyFx.write, KeyFx.del, bind, Except.bind, pure, Except.pure]
      | none =>
        simp only [ok_bind', Bool.not_false, if_true]
        cases hk : Gen.repeatTestsKeys.contains c
        · simp [hkeys hk, repeatLoop, errOf, Except.map, fxOf, pure, Except.pure]
        · rw [repeatLoop_forIn e h3 h5 hbase vals _ _ (repeatTests c) ?hf2]
          case hf2 => exact fun _ _ _ => rfl
          cases h2 : repeatLoop e.shp vals (repeatTests c) with
          | error er => simp [errOf, Except.map, bind, Except.bind]
          | ok r2 =>
            cases r2 with
            | some dv =>
              obtain ⟨d, v⟩ := dv
              simp [errOf, Except.map, fxOf, KeyFx.write, KeyFx.del, bind, Except.bind, pure, Except.pure]
            | none => simp [errOf, Except.map, fxOf, bind, Except.bind, pure, Except.pure]

/-! the translated `_simplify` computes (tests, not theorems): constant values, values repeating per volume, nothing to do,
    a constant `None` -/
example : Py.simplify (0 : Nat) [2, 2, 2, 2] (some 2) ["global", "time"] [5, 5, 5, 5] gslices =
    .ok (true, [KeyOp.write gconst [5], KeyOp.del gslices]) := by rfl
example : Py.simplify (0 : Nat) [2, 2, 2, 2] (some 2) ["global", "time"] [5, 6, 5, 6] gslices =
    .ok (true, [KeyOp.write tslices [5, 6], KeyOp.del gslices]) := by rfl
example : Py.simplify (0 : Nat) [2, 2, 2, 2] (some 2) ["global", "time"] [5, 5, 6, 6] gslices =
    .ok (true, [KeyOp.write tsamples [5, 6], KeyOp.del gslices]) := by rfl
example : Py.simplify (0 : Nat) [2, 2, 2, 2] (some 2) ["global", "time"] [5, 6, 7, 8] gslices = .ok (false, []) := by rfl
example : Py.simplify (0 : Nat) [2, 2, 2, 2] (some 2) ["global", "time"] [0] gconst = .ok (true, [KeyOp.del gconst]) := by rfl

end Src
