import DcmVerif.Model.Time
import DcmVerif.Generated.Tables
/-! TM strings to seconds (C20). -/
set_option autoImplicit false

namespace Tm
open Phx

theorem dropColons_idem (s : Str) : dropColons (dropColons s) = dropColons s := by
  simp [dropColons]

/-- **colons are ignored:** a TM string and the same string with its colons removed convert alike,
    wherever the colons are -/
theorem toSec_colons (s : Str) : toSec s = toSec (dropColons s) := by
  unfold toSec
  rw [dropColons_idem]

theorem toSec_same_digits (s₁ s₂ : Str) (h : dropColons s₁ = dropColons s₂) : toSec s₁ = toSec s₂ := by
  rw [toSec_colons s₁, toSec_colons s₂, h]

/-- value of a `Dec` in microseconds when it has at most 6 fractional digits -/
def Dec.micros (d : Dec) : Option Int :=
  if 0 ≤ d.scale ∧ d.scale ≤ 6 then
    some ((if d.neg then -1 else 1) * (d.mant : Int) * (10 : Int) ^ (6 - d.scale).toNat)
  else none

/-- total microseconds of a conversion result (when representable) -/
def Out.micros : Out → Option Int
  | .valueError => none
  | .ok secs none => some (secs * 1000000)
  | .ok secs (some d) => d.micros.map (· + secs * 1000000)

/-- kernel-evaluated instances over every TM shape of the property: 2, 4, 6 digits, fraction of
    1–6 digits, with and without colons: `hh·3600 + mm·60 + ss.ffffff` -/
theorem tm_instances :
    (toSec "07".toList).micros = some (7 * 3600 * 1000000) ∧
    (toSec "0730".toList).micros = some ((7 * 3600 + 30 * 60) * 1000000) ∧
    (toSec "073015".toList).micros = some ((7 * 3600 + 30 * 60 + 15) * 1000000) ∧
    (toSec "073015.5".toList).micros = some ((7 * 3600 + 30 * 60 + 15) * 1000000 + 500000) ∧
    (toSec "235959.999999".toList).micros = some ((23 * 3600 + 59 * 60 + 59) * 1000000 + 999999) ∧
    (toSec "07:30:15.250000".toList).micros = some ((7 * 3600 + 30 * 60 + 15) * 1000000 + 250000) ∧
    (toSec "07:30".toList).micros = some ((7 * 3600 + 30 * 60) * 1000000) ∧
    (toSec "000000.000001".toList).micros = some 1 ∧
    (toSec "120000".toList).micros = some (12 * 3600 * 1000000) := by decide +kernel

/-- malformed TM strings raise ValueError -/
theorem tm_malformed :
    toSec "".toList = .valueError ∧ toSec "ab".toList = .valueError ∧
    toSec "12x4".toList = .valueError ∧ toSec "1234yy".toList = .valueError := by decide +kernel

/-- the two Python implementations are the same function: their ASTs are equal modulo docstring
    (computed from the source by the translator) -/
theorem time_fns_identical : Gen.timeFnBodiesIdentical = true := rfl

end Tm
