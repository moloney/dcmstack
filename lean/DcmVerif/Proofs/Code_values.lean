import DcmVerif.Generated.Code_values
import DcmVerif.Proofs.Code_classes
/-! The value-list arithmetic of `get_subset` / `from_sequence` as translated from dcmmeta.py is the model's. -/
set_option autoImplicit false
open Cls

namespace Src
variable {α κ : Type}

/-! ### the interleaving loops of `_insert_slice` / `_insert_sample` -/

/-- one round of the interleaving loops: a block of `n` held values, a block of `m` new ones -/
def intlvStep (n m : Nat) (lv ov : List α) (s : List α × Nat × Nat) : List α × Nat × Nat :=
  (s.1 ++ List.take (s.2.1 + n - s.2.1) (List.drop s.2.1 lv) ++ List.take (s.2.2 + m - s.2.2) (List.drop s.2.2 ov),
   s.2.1 + n, s.2.2 + m)

theorem iter_intlvStep (n m : Nat) (lv ov : List α) : ∀ (k : Nat) (acc : List α) (a b : Nat),
    iter (intlvStep n m lv ov) k (acc, a, b) = (acc ++ interleave n m k (lv.drop a) (ov.drop b), a + k * n, b + k * m)
  | 0, acc, a, b => by simp [iter, interleave]
  | k + 1, acc, a, b => by
    rw [iter, intlvStep, iter_intlvStep n m lv ov k]
    simp [interleave, List.drop_drop, List.append_assoc, Nat.succ_mul]
    omega

/-- the step is `intlvStep`, written out so that `simp` finds it in the translated code -/
theorem forIn_intlv (n m k : Nat) (lv ov : List α) :
    forIn (m := Except PyErr) (List.range k) (([] : List α), 0, 0) (fun _ s => pure (ForInStep.yield
      (s.1 ++ (lv.drop s.2.1).take (s.2.1 + n - s.2.1) ++ (ov.drop s.2.2).take (s.2.2 + m - s.2.2), s.2.1 + n, s.2.2 + m))) =
    .ok (interleave n m k lv ov, k * n, k * m) := by
  refine (forIn_yield (fun _ s => intlvStep n m lv ov s) _ _).trans ?_
  rw [foldl_range_const, iter_intlvStep]
  simp

/-- **the interleaving block of `_insert_slice` as written in dcmmeta.py is the model's `interleave`** over the `T·V` volumes -/
theorem insert_slice_interleave_eq (e : DExt κ α) (sdArg : Option Nat) (h5 : e.shape.length ≤ 5) (m : Nat) (lv ov : List α) :
    Py.insert_slice_interleave e.shape (e.shp sdArg).S m lv ov =
      .ok (interleave (e.shp sdArg).S m ((e.shp sdArg).T * (e.shp sdArg).V) lv ov) := by
  simp only [Py.insert_slice_interleave]
  rw [(shpOf_shp e sdArg).forIn_prod h5, ok_bind', forIn_intlv, Nat.one_mul]
  rfl

/-- **the interleaving block of `_insert_sample` as written in dcmmeta.py is the model's `interleave`** (five axes: per vector
    component, `S·T` held values then `S·T'` new ones) -/
theorem insert_sample_interleave_eq (e : DExt κ α) (sdArg : Option Nat) (h5 : e.shape.length = 5)
    (t3 : Nat) (lv ov : List α) :
    Py.insert_sample_interleave e.shape (e.shp sdArg).S t3 lv ov =
      .ok (interleave ((e.shp sdArg).S * (e.shp sdArg).T) ((e.shp sdArg).S * t3) (e.shp sdArg).V lv ov) := by
  have H := shpOf_shp e sdArg
  simp only [Py.insert_sample_interleave]
  rw [forIn_intlv, H.getT (by omega), H.getV (by omega)]
  rfl

/-! ### `_global_slice_subset` -/

theorem foldl_append_flatMap {β : Type} (f : β → List α) : ∀ (l : List β) (acc : List α),
    l.foldl (fun r x => r ++ f x) acc = acc ++ l.flatMap f
  | [], acc => by simp
  | x :: xs, acc => by simp [List.foldl_cons, foldl_append_flatMap f xs, List.append_assoc]

/-- **`_global_slice_subset` as written in dcmmeta.py is the model's `globalSliceSubset`** (a vector sample of a five-axis
    extension, or a time sample of a four- or five-axis one) -/
theorem global_slice_subset_eq [DecidableEq α] (e : DExt κ α) (isTime : Bool) (h4 : 4 ≤ e.shape.length) (h5 : e.shape.length ≤ 5)
    (hv : isTime = false → e.shape.length = 5) (idx : Nat) (vals : List α) :
    Py.global_slice_subset e.shape e.shp.S vals (if isTime then "time" else "vector") idx =
      .ok (globalSliceSubset e.shp isTime idx vals) := by
  have H := shpOf_shp e none
  have hvc := get_valid_classes_of H (by omega) h5
  simp only [Py.global_slice_subset]
  cases isTime
  · rw [H.getT (by omega)]
    simp [globalSliceSubset]
    rfl
  · by_cases hvs : vsamples ∈ validClasses e.shp
    · have h5' := (H.lt_length (by omega) hvs).2 rfl
      rw [H.getT (by omega), H.getV h5']
      simp [globalSliceSubset, hvc, hvs, ok_bind', List.flatMap]
      rfl
    · simp [globalSliceSubset, hvc, hvs, ok_bind']
      rfl

/-! ### `_copy_slice` -/

/-- the lists `_copy_slice` looks for the first valid class in, for a global and for a vector key -/
theorem find_dest_global (valid : List Cls) (hg : gconst ∈ valid) :
    [tsamples, vsamples, gconst].find? (fun x => valid.contains x) = some (copySliceDest valid gslices) := by
  by_cases h1 : tsamples ∈ valid <;> by_cases h2 : vsamples ∈ valid <;> simp [copySliceDest, h1, h2, hg]

theorem find_dest_vector (valid : List Cls) (hg : gconst ∈ valid) :
    [tsamples, gconst].find? (fun x => valid.contains x) = some (copySliceDest valid vslices) := by
  by_cases h1 : tsamples ∈ valid <;> simp [copySliceDest, h1, hg]

/-- **the destination class `_copy_slice` picks as written in dcmmeta.py is the model's `copySliceDest`**, for the per-slice
    classes it is called with and a result in which global constants are valid (they always are) -/
theorem copy_slice_dest_eq (valid : List Cls) (c : Cls) (hc : perSlice c = true) (hg : gconst ∈ valid) :
    Py.copy_slice_dest valid c = .ok (copySliceDest valid c) := by
  cases c <;> simp only [perSlice, reduceCtorEq] at hc <;>
    simp only [Py.copy_slice_dest, Cls.base, beq_iff_eq, String.reduceEq, ↓reduceIte, find_dest_global valid hg,
      find_dest_vector valid hg] <;> rfl

theorem iter_append_tile (sub : List α) : ∀ (k : Nat) (acc : List α), iter (· ++ sub) k acc = acc ++ tile k sub
  | 0, acc => by simp [iter, tile]
  | k + 1, acc => by simp [iter, tile, iter_append_tile sub k, List.append_assoc]

theorem foldl_range_tile (v : List α) (k : Nat) (acc : List α) :
    (List.range k).foldl (fun r _ => r ++ v) acc = acc ++ tile k v := by
  rw [foldl_range_const (· ++ v), iter_append_tile]

/-- **the values `_copy_slice` stores as written in dcmmeta.py are the model's `copySliceVals`** whenever the strided subset is
    not empty (or nothing has to be repeated) … -/
theorem copy_slice_vals_eq (vals : List α) (idx st destMult : Nat)
    (h : (stride st (vals.drop idx)).length ≠ 0 ∨ destMult = 0) :
    Py.copy_slice_vals vals idx st destMult = .ok (copySliceVals st destMult idx vals) := by
  simp only [Py.copy_slice_vals, copySliceVals, pyStep_eq]
  by_cases hlt : (stride st (vals.drop idx)).length < destMult
  · have hne : (stride st (vals.drop idx)).length ≠ 0 := by omega
    simp only [hlt, decide_true, if_true, pyFloorDiv]
    have hb : ((stride st (vals.drop idx)).length == 0) = false := by simpa using hne
    simp only [hb, Bool.false_eq_true, if_false, ok_bind']
    rw [forIn_yield (fun (_ : Nat) r => r ++ stride st (vals.drop idx)), ok_bind', foldl_range_tile]
    rfl
  · simp [hlt]; rfl

/-- … and when it is empty while the destination needs values, Python divides by zero (`ZeroDivisionError`) -/
theorem copy_slice_vals_zero_div (vals : List α) (idx st destMult : Nat)
    (h0 : (stride st (vals.drop idx)).length = 0) (hd : 0 < destMult) :
    Py.copy_slice_vals vals idx st destMult = .error PyErr.zeroDivision := by
  simp only [Py.copy_slice_vals, pyStep_eq, h0, pyFloorDiv]
  simp [hd]
  rfl

/-! ### `_get_changed_class` -/

/-- the model's errors seen from the translated code: `ValueError` -/
def errV {β : Type} : Except Err β → Except PyErr β
  | .ok b => .ok b
  | .error _ => .error PyErr.valueError

theorem errV_ok {β : Type} (b : β) : errV (.ok b : Except Err β) = .ok b := rfl

/-- the values of a key as `_get_changed_class` reads them: an absent key is a constant `None` -/
def valuesOf (null : α) : KeyState α → List α
  | none => [null]
  | some (_, v) => v

theorem getD_pos (l : List Nat) (h : ∀ x ∈ l, 0 < x) (d : Nat) : 0 < l.getD d 1 := by
  by_cases hd : d < l.length
  · simp [List.getElem?_eq_getElem hd]; exact h _ (List.getElem_mem hd)
  · simp [List.getElem?_eq_none (by omega : l.length ≤ d)]

theorem shp_pos (e : DExt κ α) (hpos : ∀ x ∈ e.shape, 0 < x) (sdArg : Option Nat) :
    ((e.shp sdArg).hasSlice = true → 0 < (e.shp sdArg).S) ∧ 0 < (e.shp sdArg).T ∧ 0 < (e.shp sdArg).V := by
  refine ⟨fun hs => ?_, getD_pos _ hpos 3, getD_pos _ hpos 4⟩
  cases hd : e.sliceDim with
  | none => simp [DExt.shp, hd] at hs
  | some d => simpa [DExt.shp, hd] using getD_pos e.shape hpos d

theorem mem_preserving_none (c : Cls) : c ∈ preserving none := by cases c <;> decide

theorem mult_eq_zero {sh : Shp} (hS : sh.hasSlice = true → 0 < sh.S) (hT : 0 < sh.T) (hV : 0 < sh.V) (c : Cls) :
    mult sh c = 0 ↔ perSlice c = true ∧ sh.hasSlice = false := by
  cases hs : sh.hasSlice <;> simp only [hs, true_implies] at hS <;> cases c <;>
    simp [mult, perSlice, hs, Nat.mul_eq_zero] <;> omega

theorem mult_hasSlice (sh : Shp) (c : Cls) :
    mult { sh with hasSlice := true } c =
      match c with
      | gslices => sh.S * sh.T * sh.V
      | tslices => sh.S
      | vslices => sh.S * sh.T
      | c => mult sh c := by
  cases c <;> rfl

/-- the last steps of `_get_changed_class`: the values tiled (a per-slice class) or each repeated `f` times, of which a constant
    keeps the first -/
theorem changed_repeat (values : List α) (new : Cls) (perSl : Bool) (f : Nat) :
    (if perSl = true then
        forIn (m := Except PyErr) (List.range f) [] (fun _ r => pure (ForInStep.yield (r ++ values))) >>= fun r =>
          if (new == gconst) = true then pure r.head?.toList else pure r
      else
        forIn (m := Except PyErr) values [] (fun x r => pure (ForInStep.yield (r ++ List.replicate f x))) >>= fun r =>
          if (new == gconst) = true then pure r.head?.toList else pure r) =
      .ok (let r := if perSl then tile f values else repeatEach f values; if new = gconst then r.head?.toList else r) := by
  rw [forIn_yield (fun (_ : Nat) r => r ++ values), forIn_yield (fun x r => r ++ List.replicate f x), foldl_range_tile,
    foldl_append_flatMap]
  cases perSl <;> by_cases hg : new = gconst <;> simp [hg, repeatEach] <;> rfl

section
attribute [local simp] Py.get_changed_class getChangedK errV valuesOf pyFloorDiv ok_bind' sub_beq_slices mem_preserving_none
-- tried before the subterms are simplified: the statements after a `raise` are dropped unread, and the last steps are
-- recognised as the code has them, wherever a branch of the code ends in them
attribute [local simp ↓] throw_bind' changed_repeat

/-- `hfb`: `shape[slice_dim]` is the model's `S` where the code falls back on it (a per-slice target in an extension without
    slice dimension) -/
theorem get_changed_class_of [DecidableEq α] (null : α) {shape : List Nat} {n : Option Nat} {sh : Shp} (h : ShpOf shape n sh)
    (h3 : 3 ≤ shape.length) (h5 : shape.length ≤ 5) (hS : sh.hasSlice = true → 0 < sh.S) (hT : 0 < sh.T) (hV : 0 < sh.V)
    (slice_dim : Option Nat) (new : Cls)
    (hfb : sh.hasSlice = false → perSlice new = true → pyShapeAt shape slice_dim = .ok sh.S)
    (ks : KeyState α) (hks : ∀ c v, ks = some (c, v) → c ∈ validClasses sh ∧ mult sh c ≠ 0) :
    Py.get_changed_class shape n (valuesOf null ks) (ks.map (·.1)) new slice_dim = errV (getChangedK null sh ks new) := by
  have hv := get_valid_classes_of h h3 h5
  have hm := get_multiplicity_of h h3 h5
  have hp := h.prod h5
  -- a valid class of multiplicity 0 is per slice in an extension without slice dimension: the code then counts
  -- `shape[slice_dim]` slices, times `shape[3]` (the axis exists; in the form `simp` gives `shape[3]!`) for vector slices
  have hfall : new ∈ validClasses sh → mult sh new = 0 →
      perSlice new = true ∧ pyShapeAt shape slice_dim = .ok sh.S ∧ (new = vslices → shape[3]?.getD 0 = sh.T) := by
    intro hnv h0
    obtain ⟨hps, hsl⟩ := (mult_eq_zero hS hT hV new).1 h0
    exact ⟨hps, hfb hsl hps, fun hb => by simpa using h.getT ((h.lt_length h3 hnv).1 (by simp [hb, Cls.base]))⟩
  -- after the first `simp` of either case code and model differ only in how they find the new multiplicity
  rcases ks with _ | ⟨c, v⟩
  · simp [hv, hm, hp]
    by_cases hnv : new ∈ validClasses sh
    · by_cases h0 : mult sh new = 0
      · obtain ⟨hps, hsa, hT3⟩ := hfall hnv h0
        cases new <;> simp [perSlice] at hps <;> simp [hnv, h0, hsa, hT3, mult_hasSlice, Cls.base, Nat.mul_assoc]
      · simp [hnv, h0]
    · simp [hnv]
  · obtain ⟨hcv, hcm⟩ := hks c v rfl
    simp [hv, hm, hp, hcv, hcm]
    by_cases hcn : c = new
    · simp [hcn]
      rfl
    by_cases hpr : new ∈ preserving (some c)
    · by_cases hnv : new ∈ validClasses sh
      · by_cases h0 : mult sh new = 0
        · obtain ⟨hps, hsa, hT3⟩ := hfall hnv h0
          cases new <;> simp [perSlice] at hps <;>
            simp [hcn, hpr, hnv, h0, hsa, hT3, mult_hasSlice, Cls.base, Nat.mul_assoc]
        · simp [hcn, hpr, hnv, h0]
      · simp [hcn, hpr, hnv]
    · simp [hcn, hpr]

end

/-- the `slice_dim` argument stands in for a missing slice dimension only in `S`, which no multiplicity then reads -/
theorem mult_shp (e : DExt κ α) (a b : Option Nat) (c : Cls) : mult (e.shp a) c = mult (e.shp b) c := by
  cases hs : e.sliceDim with
  | some d => simp [DExt.shp, hs]
  | none => cases c <;> simp [mult, DExt.shp, hs]

theorem get_changed_class_shp [DecidableEq α] (null : α) (e : DExt κ α) (sdArg : Option Nat)
    (h3 : 3 ≤ e.shape.length) (h5 : e.shape.length ≤ 5) (hpos : ∀ x ∈ e.shape, 0 < x)
    (hsd : ∀ sd, sdArg = some sd → sd < e.shape.length)
    (ks : KeyState α) (hks : ∀ c v, ks = some (c, v) → c ∈ validClasses e.shp ∧ mult e.shp c ≠ 0) (new : Cls)
    (hn : sdArg.isSome = true ∨ e.sliceDim.isSome = true ∨ perSlice new = false) :
    Py.get_changed_class e.shape (e.sliceDim.map fun d => e.shape.getD d 1) (valuesOf null ks) (ks.map (·.1)) new sdArg =
      errV (getChangedK null (e.shp sdArg) ks new) := by
  obtain ⟨hS, hT, hV⟩ := shp_pos e hpos sdArg
  refine get_changed_class_of null (shpOf_shp e sdArg) h3 h5 hS hT hV sdArg new ?_ ks ?_
  · intro hs hp
    have hd : e.sliceDim = none := by simpa [DExt.shp] using hs
    cases sdArg with
    | none => simp [hd, hp] at hn
    | some sd => simp [pyShapeAt, DExt.shp, hd, hsd sd rfl]
  · intro c v hk
    rw [mult_shp e sdArg none]
    exact hks c v hk

/-- **`_get_changed_class` as written in dcmmeta.py is the model's `getChangedK`**: same values, and `ValueError` exactly
    when the change would lose data — for a key that is absent or held under a valid class of non-zero multiplicity (a per-slice
    class in an extension without slice dimension makes Python divide by zero; `check_valid` rejects such content) and a
    `slice_dim` argument inside the shape -/
theorem get_changed_class_eq [DecidableEq α] (null : α) (e : DExt κ α) (sd : Nat)
    (h3 : 3 ≤ e.shape.length) (h5 : e.shape.length ≤ 5) (hpos : ∀ x ∈ e.shape, 0 < x) (hsd : sd < e.shape.length)
    (ks : KeyState α) (hks : ∀ c v, ks = some (c, v) → c ∈ validClasses e.shp ∧ mult e.shp c ≠ 0) (new : Cls) :
    Py.get_changed_class e.shape (e.sliceDim.map fun d => e.shape.getD d 1) (valuesOf null ks) (ks.map (·.1)) new (some sd) =
      errV (getChangedK null (e.shp (some sd)) ks new) :=
  get_changed_class_shp null e (some sd) h3 h5 hpos (fun _ h => Option.some.inj h ▸ hsd) ks hks new (.inl rfl)

/-- … and without a `slice_dim` argument (as `_change_class` calls it), whenever the extension has a slice dimension of its own
    or the target class is not per slice (otherwise Python reads `shape[None]`: TypeError) -/
theorem get_changed_class_none_eq [DecidableEq α] (null : α) (e : DExt κ α)
    (h3 : 3 ≤ e.shape.length) (h5 : e.shape.length ≤ 5) (hpos : ∀ x ∈ e.shape, 0 < x)
    (ks : KeyState α) (hks : ∀ c v, ks = some (c, v) → c ∈ validClasses e.shp ∧ mult e.shp c ≠ 0) (new : Cls)
    (hn : e.sliceDim.isSome = true ∨ perSlice new = false) :
    Py.get_changed_class e.shape (e.sliceDim.map fun d => e.shape.getD d 1) (valuesOf null ks) (ks.map (·.1)) new none =
      errV (getChangedK null (e.shp none) ks new) :=
  get_changed_class_shp null e none h3 h5 hpos (fun _ h => nomatch h) ks hks new (.inr hn)

/-! ### the hypotheses are satisfiable, the translated code computes (tests, not theorems) -/

example : Py.insert_slice_interleave [2, 2, 2, 2] 2 1 [1, 2, 3, 4] [9, 8] = .ok [1, 2, 9, 3, 4, 8] := by rfl
example : Py.insert_sample_interleave [2, 2, 1, 2, 2] 1 1 [1, 2, 3, 4] [9, 8] = .ok [1, 2, 9, 3, 4, 8] := by rfl
example : Py.global_slice_subset [1, 1, 2, 2, 2] 2 [0, 1, 2, 3, 4, 5, 6, 7] "time" 1 = .ok [2, 3, 6, 7] := by rfl
example : Py.copy_slice_vals [0, 1, 2, 3] 1 2 4 = .ok [1, 3, 1, 3] := by rfl
example : Py.copy_slice_vals ([] : List Nat) 0 2 4 = .error PyErr.zeroDivision := by rfl
example : Py.copy_slice_dest [gconst, gslices, vsamples, vslices] gslices = .ok vsamples := by rfl
example : Py.get_changed_class [2, 2, 3, 2] (some 3) [7, 8] (some tsamples) gslices (some 2) = .ok [7, 7, 7, 8, 8, 8] := by rfl
example : Py.get_changed_class [2, 2, 3, 2] (some 3) [7, 8, 9] (some tslices) gslices (some 2) = .ok [7, 8, 9, 7, 8, 9] := by rfl
example : Py.get_changed_class [2, 2, 3, 2] none [5] none tslices (some 2) = .ok [5, 5, 5] := by rfl
example : Py.get_changed_class [2, 2, 3, 2] (some 3) [7, 8] (some tsamples) tslices (some 2) = .error PyErr.valueError := by rfl

end Src
