import DcmVerif.Model.Extract
/-! C15: which elements extraction turns into entries. -/
set_option autoImplicit false

namespace Ex

def tagOf (e : Elem) : Nat × Nat := (e.group, e.elem)

/-- what makes an element a standard (non-translated) entry -/
def Contributes (rules : List String) (tm : List ((Nat × Nat) × String)) (e : Elem) : Prop :=
  e.blankStr = false ∧ tm.find? (fun p => p.1 == (e.group, e.elem)) = none ∧
  ignored rules e = false ∧ (if e.isSeq then e.seqEmpty = false else e.valueNone = false)

theorem transStep_standard (st : State) (tname : String) (keys : Option (List String)) :
    (transStep st tname keys).standard = st.standard := by
  unfold transStep
  split
  · split <;> rfl
  · rfl

theorem plainStep_standard (rules : List String) (st : State) (e : Elem) :
    (plainStep rules st e).standard = st.standard ∨
      ((plainStep rules st e).standard = st.standard ++ [(elemKey e, e.group, e.elem)] ∧
        ignored rules e = false ∧
        (if e.isSeq then e.seqEmpty = false else e.valueNone = false)) := by
  unfold plainStep
  split
  · exact .inl rfl
  · split
    · split
      · exact .inl rfl
      · exact .inr ⟨rfl, by simp_all⟩
    · split
      · exact .inl rfl
      · exact .inr ⟨rfl, by simp_all⟩

/-- one step appends at most one entry, and only for a non-blank, non-ignored element that has a
    value, under its key and tag -/
theorem stepElem_standard (rules : List String) (ts : List Translator) (st st' : State) (e : Elem)
    (h : stepElem rules ts st e = some st') :
    st'.standard = st.standard ∨
      (st'.standard = st.standard ++ [(elemKey e, e.group, e.elem)] ∧
        e.blankStr = false ∧ ignored rules e = false ∧
        (if e.isSeq then e.seqEmpty = false else e.valueNone = false)) := by
  unfold stepElem at h
  split at h
  · cases h; exact .inl rfl
  · next hb =>
    obtain ⟨tm, -, rfl⟩ := Option.map_eq_some_iff.mp h
    split
    · exact .inl (transStep_standard _ _ _)
    · exact (plainStep_standard rules { st with transMap := tm } e).imp_right
        fun ⟨h1, h2⟩ => ⟨h1, by simpa using hb, h2⟩

/-- entries of the result, as (key, group, elem), all come from elements of the dataset that are
    neither blank nor ignored nor valueless, each element at most once, in dataset order -/
theorem run_standard (rules : List String) (ts : List Translator) (ds : List Elem) :
    ∀ (st st' : State), runElems rules ts st ds = some st' →
      ∃ picked : List Elem, picked.Sublist ds ∧
        st'.standard = st.standard ++ picked.map (fun e => (elemKey e, e.group, e.elem)) ∧
        ∀ e ∈ picked, e.blankStr = false ∧ ignored rules e = false ∧
          (if e.isSeq then e.seqEmpty = false else e.valueNone = false) := by
  induction ds with
  | nil =>
    intro st st' h
    cases h
    exact ⟨[], .refl _, by simp, by simp⟩
  | cons e es ih =>
    intro st st' h
    simp only [runElems] at h
    split at h
    · cases h
    · next st1 hs =>
      obtain ⟨picked, hsub, hstd, hp⟩ := ih st1 st' h
      rcases stepElem_standard rules ts st st1 e hs with h1 | ⟨h1, hnew⟩
      · exact ⟨picked, hsub.cons _, by rw [hstd, h1], hp⟩
      · exact ⟨e :: picked, hsub.cons_cons _, by simp [hstd, h1], List.forall_mem_cons.mpr ⟨hnew, hp⟩⟩

/-- what the default ignore rules leave: even groups, outside the pixel-data tags, the overlay-data
    tags and the colour LUT tags -/
theorem ignored_default (e : Elem) (h : ignored Gen.defaultIgnoreRules e = false) :
    e.group % 2 = 0 ∧ ¬ (e.group = 0x7fe0 ∧ e.elem ∈ [0x10, 0x8, 0x9]) ∧
    ¬ (e.group / 256 = 0x60 ∧ e.elem = 0x3000) ∧
    ¬ (e.group = 0x28 ∧ e.elem ∈ [0x1201, 0x1202, 0x1203, 0x1221, 0x1222, 0x1223]) := by
  -- the rule names are looked up by evaluation (unfolding the match on strings is slow)
  have h : (ignorePrivate e || (ignorePixel e || (ignoreOverlay e || (ignoreLut e || false)))) = false := h
  simp [ignorePrivate, ignorePixel, ignoreOverlay, ignoreLut, Gen.colorLutElems, Gen.pixelDataElems] at h ⊢
  omega

/-- **never pixel, overlay or colour-table data; private elements only through a translator**
    (default ignore rules, any translators, any dataset) -/
theorem never_pixel_never_private (ts : List Translator) (ds : List Elem) (st : State)
    (h : runElems Gen.defaultIgnoreRules ts ⟨[], [], []⟩ ds = some st) :
    ∀ x ∈ st.standard,
      x.2.1 % 2 = 0 ∧ ¬ (x.2.1 = 0x7fe0 ∧ x.2.2 ∈ [0x10, 0x8, 0x9]) ∧
      ¬ (x.2.1 / 256 = 0x60 ∧ x.2.2 = 0x3000) ∧
      ¬ (x.2.1 = 0x28 ∧ x.2.2 ∈ [0x1201, 0x1202, 0x1203, 0x1221, 0x1222, 0x1223]) := by
  obtain ⟨picked, _, hstd, hp⟩ := run_standard Gen.defaultIgnoreRules ts ds _ _ h
  intro x hx
  rw [hstd] at hx
  simp only [List.nil_append, List.mem_map] at hx
  obtain ⟨e, he, rfl⟩ := hx
  exact ignored_default e (hp e he).2.1

/-- each dataset element yields at most one standard entry (entries are a sub-sequence of the
    dataset, so distinct tags stay distinct and dataset order is kept) -/
theorem extract_once (rules : List String) (ts : List Translator) (ds : List Elem) (st : State)
    (h : runElems rules ts ⟨[], [], []⟩ ds = some st) :
    (st.standard.map fun x => (x.2.1, x.2.2)).Sublist (ds.map tagOf) := by
  obtain ⟨picked, hsub, hstd, _⟩ := run_standard rules ts ds _ _ h
  rw [hstd]
  simp only [List.nil_append, List.map_map]
  exact List.Sublist.map tagOf hsub

/-- key naming on concrete elements (kernel-evaluated): keyword, camel-cased private name with
    brackets stripped, tag suffix format -/
theorem key_examples :
    elemKey ⟨0x18, 0x81, "EchoTime", "Echo Time", false, false, false, false, none, none, false⟩ = "EchoTime" ∧
    elemKey ⟨0x19, 0x100a, "", "[Number Of Images In Mosaic]", false, false, false, false, none, none, false⟩ =
      "NumberOfImagesInMosaic" ∧
    elemKey ⟨0x19, 0x100b, "", "slice measurement  duration", false, false, false, false, none, none, false⟩ =
      "SliceMeasurementDuration" ∧
    elemKey ⟨0x19, 0x100c, "", "Private tag data", false, false, false, false, none, none, false⟩ = "PrivateTagData" ∧
    tagToStr 0x10 0x20 = "0X10_0X20" ∧ tagToStr 0x7fe0 0x10 = "0X7FE0_0X10" := by decide +kernel

end Ex
