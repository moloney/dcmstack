import DcmVerif.Proofs.Group
import DcmVerif.Proofs.ListLemmas
/-! C18, "independently of path order": when closeness of the tolerance-compared keys is an
equivalence on the values that occur, two files end up in the same group iff they agree on the exact
keys and are close on the others — a condition that does not mention the order of the paths.  Without
transitivity first-fit grouping does depend on the order (`order_matters_without_transitivity`). -/
set_option autoImplicit false

namespace Grp
variable {E C : Type} [DecidableEq E]

/-- grouping of files given by id, with their exact / close keys as functions of the id -/
def groupIds (closeB : C → C → Bool) (eOf : Nat → E) (cOf : Nat → C) (ids : List Nat)
    (acc : List (E × Subs C)) : List (E × Subs C) :=
  ids.foldl (fun a id => place closeB id (eOf id) (cOf id) a) acc

theorem groupLoop_files (closeB : C → C → Bool) (warn : Bool) (eOf : Nat → E) (cOf : Nat → C)
    (ids : List Nat) (acc : List (E × Subs C)) :
    groupLoop closeB warn (ids.map fun id => Item.file id (eOf id) (cOf id)) acc =
      .ok (groupIds closeB eOf cOf ids acc) := by
  induction ids generalizing acc with
  | nil => rfl
  | cons id ids ih => simp only [List.map_cons, groupLoop, groupIds, List.foldl_cons]; exact ih _

/-- files `i` and `j` sit in the same group -/
def together (G : List (E × Subs C)) (i j : Nat) : Prop :=
  ∃ p ∈ G, ∃ s ∈ p.2, i ∈ s.2 ∧ j ∈ s.2

structure Inv (closeB : C → C → Bool) (eOf : Nat → E) (cOf : Nat → C) (G : List (E × Subs C))
    (S : List Nat) : Prop where
  keys : (G.map (·.1)).Nodup
  reps : ∀ p ∈ G, p.2.Pairwise (fun s t => closeB s.1 t.1 = false)
  mem : ∀ p ∈ G, ∀ s ∈ p.2, ∀ j ∈ s.2, j ∈ S ∧ eOf j = p.1 ∧ closeB s.1 (cOf j) = true
  cover : ∀ j ∈ S, ∃ p ∈ G, ∃ s ∈ p.2, j ∈ s.2

omit [DecidableEq E] in
theorem inv_nil (closeB : C → C → Bool) (eOf : Nat → E) (cOf : Nat → C) : Inv closeB eOf cOf [] [] :=
  ⟨.nil, nofun, nofun, nofun⟩

theorem inv_place (closeB : C → C → Bool) (eOf : Nat → E) (cOf : Nat → C)
    (hrefl : ∀ c, closeB c c = true) (G : List (E × Subs C)) (S : List Nat) (id : Nat)
    (h : Inv closeB eOf cOf G S) :
    Inv closeB eOf cOf (place closeB id (eOf id) (cOf id) G) (id :: S) := by
  -- each clause goes through the two levels of `upsert`: the exact keys, then the representatives
  refine ⟨place_nodup closeB id _ _ G h.keys, ?_, ?_, ?_⟩ <;> simp only [place_eq_upsert]
  · exact upsert_forall G h.reps (fun p hp _ => upsert_pairwise (R := (closeB · · = false))
      (fun k hk => by simpa using hk) p.2 (h.reps p hp)) (fun _ => by simp)
  · have hS : ∀ p ∈ G, ∀ s ∈ p.2, ∀ j ∈ s.2, j ∈ id :: S ∧ eOf j = p.1 ∧ closeB s.1 (cOf j) = true :=
      fun p hp s hs j hj => (h.mem p hp s hs j hj).imp_left (List.mem_cons_of_mem _)
    refine upsert_forall G hS (fun p hp he => ?_) (fun _ => by simp [hrefl])
    refine upsert_forall p.2 (hS p hp) (fun s hs hc j hj => ?_) (fun _ => by simp [hrefl, he])
    rcases List.mem_append.mp hj with hj | hj
    · exact hS p hp s hs j hj
    · rw [List.mem_singleton.mp hj]; exact ⟨by simp, he.symm, hc⟩
  · intro j hj
    rcases List.mem_cons.mp hj with rfl | hj
    · refine upsert_exists_new G (fun p => ?_) ?_
      · refine upsert_exists_new p.2 (fun s => ?_) ?_ <;> simp
      · simp
    · exact upsert_exists G (h.cover j hj) fun p hp =>
        upsert_exists p.2 hp (fun s hs => by simp [hs])

theorem inv_groupIds (closeB : C → C → Bool) (eOf : Nat → E) (cOf : Nat → C)
    (hrefl : ∀ c, closeB c c = true) (ids : List Nat) (G : List (E × Subs C)) (S : List Nat)
    (h : Inv closeB eOf cOf G S) :
    Inv closeB eOf cOf (groupIds closeB eOf cOf ids G) (ids.reverse ++ S) := by
  induction ids generalizing G S with
  | nil => exact h
  | cons id ids ih =>
    simpa [groupIds] using ih _ _ (inv_place closeB eOf cOf hrefl G S id h)

omit [DecidableEq E] in
theorem Inv.together_iff {closeB : C → C → Bool} {eOf : Nat → E} {cOf : Nat → C}
    {G : List (E × Subs C)} {S : List Nat} (hinv : Inv closeB eOf cOf G S)
    (hsymm : ∀ a b, closeB a b = true → closeB b a = true)
    (htrans : ∀ a b c, closeB a b = true → closeB b c = true → closeB a c = true)
    {i j : Nat} (hi : i ∈ S) (hj : j ∈ S) :
    together G i j ↔ (eOf i = eOf j ∧ closeB (cOf i) (cOf j) = true) := by
  constructor
  · rintro ⟨p, hp, s, hs, his, hjs⟩
    obtain ⟨_, e1, c1⟩ := hinv.mem p hp s hs i his
    obtain ⟨_, e2, c2⟩ := hinv.mem p hp s hs j hjs
    exact ⟨e1.trans e2.symm, htrans _ _ _ (hsymm _ _ c1) c2⟩
  · rintro ⟨he, hc⟩
    obtain ⟨p, hp, s, hs, his⟩ := hinv.cover i hi
    obtain ⟨q, hq, t, ht, hjt⟩ := hinv.cover j hj
    obtain ⟨_, e1, c1⟩ := hinv.mem p hp s hs i his
    obtain ⟨_, e2, c2⟩ := hinv.mem q hq t ht j hjt
    -- distinct exact keys: the two entries are one
    obtain rfl : p = q := nodup_map_inj (·.1) G hinv.keys p q hp hq (by rw [← e1, ← e2, he])
    -- the two representatives are close, hence the same sub-group
    have hst : closeB s.1 t.1 = true := htrans _ _ _ (htrans _ _ _ c1 hc) (hsymm _ _ c2)
    rcases pairwise_mem_cases _ _ (hinv.reps p hp) s t hs ht with rfl | h1 | h1
    · exact ⟨p, hp, s, hs, his, hjt⟩
    · rw [hst] at h1; cases h1
    · rw [hsymm _ _ hst] at h1; cases h1

/-- **who shares a group is decided by the keys alone.**  If closeness is reflexive, symmetric and
    transitive, two of the files end up in the same group iff they agree on the exact keys and are
    close on the tolerance-compared keys. -/
theorem together_iff (closeB : C → C → Bool) (eOf : Nat → E) (cOf : Nat → C)
    (hrefl : ∀ c, closeB c c = true)
    (hsymm : ∀ a b, closeB a b = true → closeB b a = true)
    (htrans : ∀ a b c, closeB a b = true → closeB b c = true → closeB a c = true)
    (ids : List Nat) (i j : Nat) (hi : i ∈ ids) (hj : j ∈ ids) :
    together (groupIds closeB eOf cOf ids []) i j ↔
      (eOf i = eOf j ∧ closeB (cOf i) (cOf j) = true) :=
  (inv_groupIds closeB eOf cOf hrefl ids [] [] (inv_nil closeB eOf cOf)).together_iff hsymm htrans
    (by simp [hi]) (by simp [hj])

/-- **independence of path order**: permuting the paths does not change which files share a group -/
theorem group_order_independent (closeB : C → C → Bool) (eOf : Nat → E) (cOf : Nat → C)
    (hrefl : ∀ c, closeB c c = true)
    (hsymm : ∀ a b, closeB a b = true → closeB b a = true)
    (htrans : ∀ a b c, closeB a b = true → closeB b c = true → closeB a c = true)
    (ids ids' : List Nat) (hperm : ids.Perm ids') (i j : Nat) (hi : i ∈ ids) (hj : j ∈ ids) :
    together (groupIds closeB eOf cOf ids []) i j ↔ together (groupIds closeB eOf cOf ids' []) i j := by
  rw [together_iff closeB eOf cOf hrefl hsymm htrans ids i j hi hj,
    together_iff closeB eOf cOf hrefl hsymm htrans ids' i j (hperm.mem_iff.mp hi) (hperm.mem_iff.mp hj)]

/-- without transitivity the first-fit grouping does depend on the order: values 0, 4, 8 with
    "close = at most 5 apart" -/
theorem order_matters_without_transitivity :
    let closeB : Nat → Nat → Bool := fun a b => decide (a ≤ b + 5 ∧ b ≤ a + 5)
    let cOf : Nat → Nat := fun id => 4 * id
    groupIds closeB (fun _ => ()) cOf [0, 1, 2] [] = [((), [(0, [0, 1]), (8, [2])])] ∧
    groupIds closeB (fun _ => ()) cOf [1, 0, 2] [] = [((), [(4, [1, 0, 2])])] := by
  decide

/-- non-vacuity of `together_iff`: exact comparison on a lattice quotient is an equivalence -/
example : let closeB : Nat → Nat → Bool := fun a b => a / 10 == b / 10
    (∀ c, closeB c c = true) ∧ (∀ a b, closeB a b = true → closeB b a = true) ∧
    (∀ a b c, closeB a b = true → closeB b c = true → closeB a c = true) := by
  refine ⟨?_, ?_, ?_⟩
  · intro c; simp
  · intro a b h; simp at h ⊢; omega
  · intro a b c h1 h2; simp at h1 h2 ⊢; omega

end Grp
