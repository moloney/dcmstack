import DcmVerif.Model.Json
/-! C09: the token-level round trip, injectivity of the encoder, padding. -/
set_option autoImplicit false

namespace Js

theorem vsize_pos (v : Val) : 0 < vsize v := by
  cases v <;> simp only [vsize] <;> omega

mutual
  theorem decode_encode : ∀ (v : Val) (fuel : Nat) (rest : List Tok), vsize v ≤ fuel →
      decode fuel (encode v ++ rest) = some (v, rest)
    | v, 0, _, h => absurd h (Nat.not_le.mpr (vsize_pos v))
    | .null, fuel + 1, rest, _ | .bool _, fuel + 1, rest, _ | .num _, fuel + 1, rest, _
    | .str _, fuel + 1, rest, _ => by simp [encode, decode]
    | .arr items, fuel + 1, rest, h => by
        have h : lsize items ≤ fuel := by simp only [vsize] at h; omega
        simp [encode, decode, decodeList_encode items fuel rest h]
    | .obj fields, fuel + 1, rest, h => by
        have h : fsize fields ≤ fuel := by simp only [vsize] at h; omega
        simp [encode, decode, decodeFields_encode fields fuel rest h]
  theorem decodeList_encode : ∀ (vs : List Val) (fuel : Nat) (rest : List Tok), lsize vs ≤ fuel →
      decodeList fuel vs.length (encodeList vs ++ rest) = some (vs, rest)
    | [], fuel, rest, _ => by cases fuel <;> simp [encodeList, decodeList]
    | v :: vs, 0, _, h => by simp [lsize] at h
    | v :: vs, fuel + 1, rest, h => by
        have h : vsize v ≤ fuel ∧ lsize vs ≤ fuel := by simp only [lsize] at h; omega
        simp [encodeList, decodeList, decode_encode v fuel _ h.1, decodeList_encode vs fuel rest h.2]
  theorem decodeFields_encode : ∀ (fs : List (String × Val)) (fuel : Nat) (rest : List Tok),
      fsize fs ≤ fuel →
      decodeFields fuel fs.length (encodeFields fs ++ rest) = some (fs, rest)
    | [], fuel, rest, _ => by cases fuel <;> simp [encodeFields, decodeFields]
    | (k, v) :: fs, 0, _, h => by simp [fsize] at h
    | (k, v) :: fs, fuel + 1, rest, h => by
        have h : vsize v ≤ fuel ∧ fsize fs ≤ fuel := by simp only [fsize] at h; omega
        simp [encodeFields, decodeFields, decode_encode v fuel _ h.1, decodeFields_encode fs fuel rest h.2]
end

/-- decoding what was encoded gives back the value: same nesting, same key order, same lexemes -/
theorem loads_dumps (v : Val) : decode (vsize v) (encode v) = some (v, []) := by
  simpa using decode_encode v (vsize v) [] (Nat.le_refl _)

/-- **the encoder is injective**: two values with the same serialisation are equal, so
    re-serialising a loaded extension gives the identical text and nothing is conflated -/
theorem encode_injective (v w : Val) (h : encode v = encode w) : v = w := by
  -- decode both with fuel enough for either
  have h1 := decode_encode v (max (vsize v) (vsize w)) [] (Nat.le_max_left _ _)
  rw [h, decode_encode w _ [] (Nat.le_max_right _ _)] at h1
  cases h1
  rfl

/-- key order is part of the value: objects with the same fields in a different order are different
    values with different serialisations -/
theorem order_matters : encode (.obj [("a", .null), ("b", .null)]) ≠ encode (.obj [("b", .null), ("a", .null)]) := by
  decide

/-- **NIfTI container:** stripping the NUL padding gives back the content, whenever the content
    does not itself end in a NUL byte (JSON text ends in `}`) -/
theorem strip_pad (bs : List UInt8) (h : ∀ x, bs.getLast? = some x → x ≠ 0) :
    rstripNul (pad16 bs) = bs := by
  unfold rstripNul pad16
  rw [List.reverse_append, List.reverse_replicate, List.dropWhile_append_of_pos (by simp),
    List.dropWhile_beq_eq_self_of_head?_ne, List.reverse_reverse]
  rw [List.head?_reverse]
  exact fun e => h 0 e rfl

/-- the printer on concrete values (kernel-evaluated): nesting, empty containers, escapes,
    astral code points as surrogate pairs -/
theorem dumps_examples :
    dumps (.obj [("a", .num "1"), ("b", .arr [.null, .str "x"]), ("c", .obj []), ("d", .arr [])]) =
      "{\n    \"a\": 1,\n    \"b\": [\n        null,\n        \"x\"\n    ],\n    \"c\": {},\n    \"d\": []\n}" ∧
    dumps (.str "a\"b\\c\n\tü") = "\"a\\\"b\\\\c\\n\\t\\u00fc\"" ∧
    dumps (.str (String.singleton (Char.ofNat 128512))) = "\"\\ud83d\\ude00\"" ∧
    dumps (.arr [.bool true, .bool false, .num "1e+20", .num "0.1"]) =
      "[\n    true,\n    false,\n    1e+20,\n    0.1\n]" := by decide +kernel

end Js
