import DcmVerif.Model.Orient
import DcmVerif.Proofs.ListLemmas
/-! Proofs about the orientation model (C17): `ornt_transform` between two orientations with the same
axes, the voxel-order validation for every string, the index / affine identity for every shape, and
where the reordering sends each source axis (used by C02 and C20). -/
set_option autoImplicit false

namespace Orient

theorem all48_length : all48.length = 48 := by decide +kernel
theorem codes48_length : codes48.length = 48 := by decide +kernel

/-! ### the 48 signed permutations -/

def allPerm : List (List Nat) := [[0,1,2],[0,2,1],[1,0,2],[1,2,0],[2,0,1],[2,1,0]]
def allFlips : List (List Bool) :=
  [true, false].flatMap fun a => [true, false].flatMap fun b => [true, false].map fun c => [a, b, c]
def allT : List (List (Nat × Bool)) :=
  allPerm.flatMap fun p => allFlips.map fun f => p.zip f

theorem allT_length : allT.length = 48 := by decide

/-- the only thing the theorems below use of a `t ∈ allT` -/
theorem allT_perm : ∀ t ∈ allT, (t.map (·.1)).Perm [0, 1, 2] := by decide

theorem mem_allPerm {p : List Nat} (h : p.Perm [0, 1, 2]) : p ∈ allPerm := by
  have hall : ∀ a ∈ [0, 1, 2], ∀ b ∈ [0, 1, 2], ∀ c ∈ [0, 1, 2],
      [a, b, c].Nodup → [a, b, c] ∈ allPerm := by decide
  match p, h.length_eq with
  | [a, b, c], _ =>
    exact hall a (h.mem_iff.1 (by simp)) b (h.mem_iff.1 (by simp)) c (h.mem_iff.1 (by simp))
      (h.nodup_iff.2 (by decide))

theorem mem_allT {t : List (Nat × Bool)} (h : (t.map (·.1)).Perm [0, 1, 2]) : t ∈ allT := by
  have hf : ∀ f : List Bool, f.length = 3 → f ∈ allFlips
    | [a, b, c], _ => by cases a <;> cases b <;> cases c <;> decide
  have hf := hf (t.map (·.2)) (by simpa using h.length_eq)
  exact List.mem_flatMap.2 ⟨_, mem_allPerm h, List.mem_map.2 ⟨_, hf, (List.zip_of_prod rfl rfl).symm⟩⟩

/-! ### `ornt_transform`, for any number of axes -/

theorem findStart_eq {start : Ornt} (hs : (start.map (·.1)).Nodup) {j : Nat} {s : Ax}
    (hj : start[j]? = some s) : findStart start s.1 = some (j, s) := by
  have hk : ((start.zipIdx.map Prod.fst).map (·.1)).Nodup := by rwa [List.zipIdx_map_fst]
  rw [List.map_map] at hk
  have hp : (s, j) ∈ start.zipIdx := List.mem_zipIdx_iff_getElem?.2 hj
  simp [findStart, find?_key (fun p : Ax × Nat => p.1.1) hk hp]

/-- the `for end_in_idx, … in enumerate(end_ornt)` loop of `ornt_transform` over entries `es` numbered
    from `k`: it sets `result[j]` for every start axis found in `es` and leaves the other rows alone -/
theorem foldl_orntStep {start : Ornt} (hs : (start.map (·.1)).Nodup) (es : Ornt) :
    ∀ (k : Nat) (res : List (Option (Nat × Bool))), res.length = start.length →
      (es.map (·.1)).Nodup → (∀ e ∈ es, e.1 ∈ start.map (·.1)) →
      ∃ res', ((es.zipIdx k).map fun p => (p.2, p.1)).foldl (orntStep start) (some res) = some res' ∧
        res'.length = start.length ∧ ∀ (j : Nat) (s : Ax), start[j]? = some s →
          (∀ (i : Nat) (e : Ax), es[i]? = some e → e.1 = s.1 →
            res'[j]? = some (some (k + i, s.2 == e.2))) ∧
          (s.1 ∉ es.map (·.1) → res'[j]? = res[j]?) := by
  induction es with
  | nil =>
    intro k res hl _ _
    exact ⟨res, rfl, hl, fun j s _ => ⟨fun i e h => by simp at h, fun _ => rfl⟩⟩
  | cons e es ih =>
    intro k res hl hnd hsub
    rw [List.map_cons, List.nodup_cons] at hnd
    obtain ⟨s0, hs0, he0⟩ := List.mem_map.1 (hsub e List.mem_cons_self)
    obtain ⟨j0, hj0⟩ := List.getElem?_of_mem hs0
    obtain ⟨res', hf, hl', hget⟩ := ih (k + 1) (res.set j0 (some (k, s0.2 == e.2)))
      (by simpa using hl) hnd.2 (fun x hx => hsub x (List.mem_cons_of_mem _ hx))
    refine ⟨res', ?_, hl', fun j s hj => ⟨fun i x hi hx => ?_, fun hn => ?_⟩⟩
    · simpa [orntStep, ← he0, findStart_eq hs hj0] using hf
    · cases i with
      | zero =>
        -- `x = e`; the only start entry with the axis of `e` is `s0` at `j0`, set in this step and,
        -- as `es` does not have that axis again, not touched afterwards
        obtain rfl : e = x := by simpa using hi
        obtain ⟨hlt, -⟩ := List.getElem?_eq_some_iff.1 hj0
        obtain rfl : j0 = j :=
          (List.getElem?_inj (by simpa using hlt) hs).1 (by simp [hj, hj0, he0, hx])
        obtain rfl : s0 = s := Option.some.inj (hj0.symm.trans hj)
        rw [(hget j0 s0 hj0).2 (he0 ▸ hnd.1), List.getElem?_set_self (hl ▸ hlt)]
        rfl
      | succ i =>
        rw [← Nat.add_assoc, Nat.add_right_comm]
        exact (hget j s hj).1 i x (by simpa using hi) hx
    · rw [List.map_cons, List.mem_cons, not_or] at hn
      have hne : j0 ≠ j := fun h => hn.1 (by rw [← he0, Option.some.inj (hj0.symm.trans (h ▸ hj))])
      rw [(hget j s hj).2 hn.2, List.getElem?_set_ne hne]

theorem mapM_id_of_ne_none {α : Type} : ∀ {l : List (Option α)}, (∀ x ∈ l, x ≠ none) →
    ∃ t, l.mapM id = some t ∧ t.map some = l
  | [], _ => ⟨[], rfl, rfl⟩
  | none :: _, h => absurd rfl (h none List.mem_cons_self)
  | some a :: l, h =>
    let ⟨t, ht, hl⟩ := mapM_id_of_ne_none (l := l) fun x hx => h x (List.mem_cons_of_mem _ hx)
    ⟨a :: t, by simp [ht], by simp [hl]⟩

theorem map_idxOf_perm {α : Type} [BEq α] [LawfulBEq α] {l₁ l₂ : List α} (h : l₁.Perm l₂)
    (hn : l₂.Nodup) : (l₁.map (l₂.idxOf ·)).Perm (List.range l₂.length) :=
  (h.map _).trans (.of_eq (List.ext_getElem (by simp) fun i _ _ => by simp [hn.idxOf_getElem]))

/-- `ornt_transform` between two orientations with the same, pairwise distinct, axes succeeds; entry
    `j` says at which place of `end_` the axis of `start[j]` is and whether the directions agree -/
theorem orntTransform_spec {start end_ : Ornt} (hs : (start.map (·.1)).Nodup)
    (he : (end_.map (·.1)).Perm (start.map (·.1))) :
    ∃ t, orntTransform start end_ = some t ∧ (t.map (·.1)).Perm (List.range start.length) ∧
      ∀ (i j : Nat) (e s : Ax), end_[i]? = some e → start[j]? = some s → e.1 = s.1 →
        t[j]? = some (i, s.2 == e.2) := by
  obtain ⟨res, hres, hlen, hget⟩ := foldl_orntStep hs end_ 0 (start.map fun _ => none) (by simp)
    (he.nodup_iff.2 hs) (fun e h => he.subset (List.mem_map_of_mem h))
  -- every start axis occurs in `end_`, at the position `idxOf` gives, so `res[j]` has been set
  have hset (j : Nat) (s : Ax) (hj : start[j]? = some s) :
      ∃ b, res[j]? = some (some ((end_.map (·.1)).idxOf s.1, b)) := by
    have hi := List.idxOf_lt_length_of_mem
      (he.symm.subset (List.mem_map_of_mem (List.mem_of_getElem? hj)))
    have hes := List.getElem_idxOf hi
    rw [List.getElem_map] at hes
    exact ⟨_, Nat.zero_add _ ▸
      (hget j s hj).1 _ _ (List.getElem?_eq_getElem (by simpa using hi)) hes⟩
  obtain ⟨t, ht, rfl⟩ : ∃ t, res.mapM id = some t ∧ t.map some = res := by
    refine mapM_id_of_ne_none fun x hx => ?_
    obtain ⟨j, hj⟩ := List.getElem?_of_mem hx
    obtain ⟨hlt, -⟩ := List.getElem?_eq_some_iff.1 hj
    obtain ⟨b, hb⟩ := hset j _ (List.getElem?_eq_getElem (hlen ▸ hlt))
    rw [hj] at hb
    cases hb
    simp
  rw [List.length_map] at hlen
  refine ⟨t, by simp [orntTransform, hres, ht], ?_, fun i j e s hi hj hes => by
    simpa using (hget j s hj).1 i e hi hes⟩
  -- so the axes of `t` are the positions in `end_` of the axes of `start`
  have h1 : t.map (·.1) = (start.map (·.1)).map ((end_.map (·.1)).idxOf ·) := by
    refine List.ext_getElem? fun j => ?_
    simp only [List.getElem?_map, Option.map_map]
    cases hj : start[j]? with
    | none => rw [List.getElem?_eq_none (by simpa [hlen] using hj)]; rfl
    | some s =>
      obtain ⟨b, hb⟩ := hset j s hj
      rw [show t[j]? = some (_, b) by simpa using hb]
      rfl
  rw [h1, ← List.length_map (as := start) (·.1), ← he.length_eq]
  exact map_idxOf_perm he.symm (he.nodup_iff.2 hs)

/-! ### `ornt_transform` between the 48 orientations -/

theorem perm_facts {t : List (Nat × Bool)} (ht : (t.map (·.1)).Perm [0, 1, 2]) :
    t.length = 3 ∧ (t.map (·.1)).Nodup ∧ ∀ p ∈ t, p.1 < 3 := by
  refine ⟨by simpa using ht.length_eq, ht.nodup_iff.2 (by decide), fun p hp => ?_⟩
  have := ht.mem_iff.1 (List.mem_map_of_mem hp)
  simp at this
  omega

theorem orntTransform_applyTo {s e : Ornt} (hs : (s.map (·.1)).Perm [0, 1, 2])
    (he : (e.map (·.1)).Perm [0, 1, 2]) :
    ∃ t, orntTransform s e = some t ∧ applyTo s t = e ∧ (t.map (·.1)).Perm [0, 1, 2] := by
  have hes := he.trans hs.symm
  obtain ⟨t, ht, hp, hget⟩ := orntTransform_spec (hs.nodup_iff.2 (by decide)) hes
  have hs3 : s.length = 3 := by simpa using hs.length_eq
  have he3 : e.length = 3 := by simpa using he.length_eq
  rw [hs3] at hp
  obtain ⟨ht3, hnt, -⟩ := perm_facts hp
  refine ⟨t, ht, ?_, hp⟩
  have hk : ((s.zip t).map fun q => q.2.1).Nodup := by
    rwa [← List.map_snd_zip (l₁ := s) (l₂ := t) (by omega), List.map_map] at hnt
  refine List.ext_getElem (by simp [applyTo, he3]) fun i _ hi => ?_
  -- the start entry with the axis of `e[i]` is sent to output axis `i`
  obtain ⟨x, hx, hxe⟩ := List.mem_map.1 (hes.subset (List.mem_map_of_mem (List.getElem_mem hi)))
  obtain ⟨j, hj⟩ := List.getElem?_of_mem hx
  have htj := hget i j e[i] x (List.getElem?_eq_getElem hi) hj hxe.symm
  have hm : (x, (i, x.2 == e[i].2)) ∈ s.zip t :=
    List.mem_iff_getElem?.2 ⟨j, by simp [List.getElem?_zip_eq_some, hj, htj]⟩
  simp only [applyTo, List.getElem_map, List.getElem_range,
    find?_key (fun q : Ax × Nat × Bool => q.2.1) hk hm]
  exact Prod.ext hxe (by cases x.2 <;> cases e[i].2 <;> rfl)

theorem all48_perm : ∀ s ∈ all48, (s.map (·.1)).Perm [0, 1, 2] := by decide +kernel

/-- the 48 × 48 statement as one Boolean. It stands before `transform_in_allT`: Lean compiles the `match` the two statements
    share once, under the name of the first (`transform_table.match_1`), and the statement of the second refers to it. -/
theorem transform_table :
    all48.all (fun s => all48.all fun e =>
      match orntTransform s e with
      | some t => applyTo s t == e && decide (t.map (·.1) ∈ allPerm)
      | none => false) = true := by
  simp only [List.all_eq_true]
  intro s hs e he
  obtain ⟨t, ht, happ, hp⟩ := orntTransform_applyTo (all48_perm s hs) (all48_perm e he)
  simp [ht, happ, mem_allPerm hp]

theorem transform_spec (s e : Ornt) (hs : s ∈ all48) (he : e ∈ all48) :
    ∃ t, orntTransform s e = some t ∧ applyTo s t = e ∧ t ∈ allT :=
  let ⟨t, ht, happ, hp⟩ := orntTransform_applyTo (all48_perm s hs) (all48_perm e he)
  ⟨t, ht, happ, mem_allT hp⟩

theorem transform_reaches_code (s e : Ornt) (hs : s ∈ all48) (he : e ∈ all48) :
    ∃ t, orntTransform s e = some t ∧ applyTo s t = e :=
  let ⟨t, ht, happ, _⟩ := transform_spec s e hs he
  ⟨t, ht, happ⟩

/-- every transform `ornt_transform` can return between two of the 48 orientations is one of the 48
    signed permutations -/
theorem transform_in_allT :
    all48.all (fun s => all48.all fun e =>
      match orntTransform s e with
      | some t => decide (t ∈ allT)
      | none => false) = true := by
  simp only [List.all_eq_true]
  intro s hs e he
  obtain ⟨t, ht, -, hT⟩ := transform_spec s e hs he
  simp only [ht, hT, decide_true]

/-! ### the voxel_order check, for every string -/

def letters : List Char := ['L', 'R', 'A', 'P', 'S', 'I']
def triples : List (List Char) :=
  letters.flatMap fun a => letters.flatMap fun b => letters.map fun c => [a, b, c]

/-- the test by which `codes48` is filtered out of the letter triples -/
def codeOk (u : List Char) : Bool :=
  match axcodes2ornt u with
  | some o => isPerm o
  | none => false

theorem mem_codes48 {u : List Char} : u ∈ codes48 ↔ u ∈ triples ∧ codeOk u = true :=
  List.mem_filter

theorem mem_triples {u : List Char} : u ∈ triples ↔ u.length = 3 ∧ ∀ c ∈ u, c ∈ letters := by
  simp only [triples, List.mem_flatMap, List.mem_map]
  constructor
  · rintro ⟨a, ha, b, hb, c, hc, rfl⟩
    simp [ha, hb, hc]
  · rintro ⟨h3, hl⟩
    match u, h3 with
    | [a, b, c], _ => exact ⟨a, hl a (by simp), b, hl b (by simp), c, hl c (by simp), rfl⟩

/-- on the 216 letter triples the loop of `reorder_voxels` accepts exactly the 48 codes -/
theorem check_table : ∀ u ∈ triples,
    leftEmpty (checkLoop u [['L', 'R'], ['A', 'P'], ['S', 'I']]) = codeOk u := by
  decide +kernel

theorem checkLoop_letters {u : List Char} {acc : List (List Char)}
    (h : leftEmpty (checkLoop u acc) = true) : ∀ c ∈ u, c ∈ letters := by
  induction u generalizing acc with
  | nil => simp
  | cons x xs ih =>
    by_cases hx : x ∈ ['L', 'R', 'A', 'P', 'S', 'I']
    · simp only [checkLoop, hx, if_true] at h
      intro c hc
      rcases List.mem_cons.1 hc with rfl | hc
      · exact hx
      · exact ih h c hc
    · simp [checkLoop, hx, leftEmpty] at h

/-- **C17, code validity, for every string:** the voxel_order check passes iff the upper-cased
    string is one of the 48 codes (a permutation of one letter per anatomical axis) -/
theorem checkCode_iff (s : List Char) : checkCode s = true ↔ s.map upperC ∈ codes48 := by
  have hc : checkCode s = true ↔ (s.map upperC).length = 3 ∧
      leftEmpty (checkLoop (s.map upperC) [['L', 'R'], ['A', 'P'], ['S', 'I']]) = true := by
    unfold checkCode
    by_cases h3 : (s.map upperC).length = 3 <;> simp [h3]
  rw [hc, mem_codes48]
  constructor
  · rintro ⟨h3, hl⟩
    have ht := mem_triples.2 ⟨h3, checkLoop_letters hl⟩
    exact ⟨ht, (check_table _ ht).symm.trans hl⟩
  · rintro ⟨ht, hok⟩
    exact ⟨(mem_triples.1 ht).1, (check_table _ ht).trans hok⟩

theorem codes48_ornt : ∀ u ∈ codes48, ∃ o ∈ all48, axcodes2ornt u = some o := by decide +kernel

/-! ### index and affine identity, for every shape

What these facts need of a transform `t` is that its axes `t.map (·.1)` are a permutation of
`[0, 1, 2]`; the flips stay variables. -/

theorem outShape_getD {t : List (Nat × Bool)} {shape : List Nat} (hnd : (t.map (·.1)).Nodup)
    (hlen : t.length = shape.length) {q : (Nat × Bool) × Nat} (hq : q ∈ t.zip shape)
    (hlt : q.1.1 < 3) : (outShape t shape).getD q.1.1 0 = q.2 := by
  have hk : ((t.zip shape).map fun q => q.1.1).Nodup := by
    rwa [← List.map_fst_zip (Nat.le_of_eq hlen), List.map_map] at hnd
  simp [outShape, List.getElem?_range hlt, find?_key (fun q => q.1.1) hk hq]

open List in
/-- the output shape is the permuted input shape -/
theorem outShape_perm {t : List (Nat × Bool)} (ht : (t.map (·.1)).Perm [0, 1, 2]) {shape : List Nat}
    (hs : shape.length = 3) : (outShape t shape).Perm shape := by
  obtain ⟨hlen, hnd, hlt⟩ := perm_facts ht
  rw [← hs] at hlen
  -- read at the axes of `t`, the output shape is the input shape
  calc outShape t shape
      = [0, 1, 2].map ((outShape t shape).getD · 0) := rfl
    _ ~ (t.map (·.1)).map ((outShape t shape).getD · 0) := (ht.map _).symm
    _ = shape :=
      List.ext_getElem (by simp [hlen]) fun i _ hi => by
        have hq := List.getElem_mem (l := t.zip shape) (n := i) (by simp [hlen, hi])
        simpa using outShape_getD hnd hlen hq (hlt _ (List.of_mem_zip hq).1)

/-- a row of `inv_ornt_aff`, applied to `(out, 1)`, is the source coordinate `apply_orientation`
    reads -/
theorem dot_invOrntAffRow (j : Nat) (f : Bool) (n x y z : Nat) (hj : j < 3)
    (ho : [x, y, z].getD j 0 < n) :
    dot (invOrntAffRow ((j, f), n)) ([x, y, z].map Int.ofNat ++ [1]) =
        Int.ofNat (if f then [x, y, z].getD j 0 else n - 1 - [x, y, z].getD j 0) ∧
      (if f then [x, y, z].getD j 0 else n - 1 - [x, y, z].getD j 0) < n := by
  have : j = 0 ∨ j = 1 ∨ j = 2 := by omega
  rcases this with rfl | rfl | rfl <;> cases f <;>
    simp [dot, invOrntAffRow, List.range, List.range.loop] at ho ⊢ <;> omega

/-- **C17, voxel / transform identity:** for each signed permutation, every shape and every output
    index in range, the returned matrix maps the output index to the input index whose voxel
    `apply_orientation` put there, and that index is in range. -/
theorem matVec_eq_srcIndex {t : List (Nat × Bool)} (ht : (t.map (·.1)).Perm [0, 1, 2])
    (a b c x y z : Nat)
    (hx : x < (outShape t [a, b, c]).getD 0 0) (hy : y < (outShape t [a, b, c]).getD 1 0)
    (hz : z < (outShape t [a, b, c]).getD 2 0) :
    matVec (invOrntAff t [a, b, c]) [x, y, z] = (srcIndex t [a, b, c] [x, y, z]).map Int.ofNat ∧
    (srcIndex t [a, b, c] [x, y, z]).getD 0 0 < a ∧
    (srcIndex t [a, b, c] [x, y, z]).getD 1 0 < b ∧
    (srcIndex t [a, b, c] [x, y, z]).getD 2 0 < c := by
  obtain ⟨hlen, hnd, hlt⟩ := perm_facts ht
  have hin : ∀ j, j < 3 → [x, y, z].getD j 0 < (outShape t [a, b, c]).getD j 0
    | 0, _ => hx
    | 1, _ => hy
    | 2, _ => hz
  -- the row of an input axis reads the output coordinate of the axis it is sent to, `p.1.1`, which
  -- is below the length `p.2` of the input axis
  have row (p : (Nat × Bool) × Nat) (hp : p ∈ t.zip [a, b, c]) :=
    have hj := hlt p.1 (List.of_mem_zip hp).1
    dot_invOrntAffRow p.1.1 p.1.2 p.2 x y z hj
      (outShape_getD (shape := [a, b, c]) hnd hlen hp hj ▸ hin _ hj)
  refine ⟨?_, ?_⟩
  · rw [matVec, invOrntAff, srcIndex, List.map_map, List.map_map]
    exact List.map_congr_left fun p hp => (row p hp).1
  · match t, hlen, row with
    | [t0, t1, t2], _, row =>
      exact ⟨(row (t0, a) (by simp)).2, (row (t1, b) (by simp)).2, (row (t2, c) (by simp)).2⟩

/-! ### the affine after reordering spells the requested code -/

/-- the orientation `io_orientation` reads from `affine · T` is the start orientation pushed
    through the transform -/
theorem ioOrientation_mulCols (cols : List Col) (t : List (Nat × Bool)) :
    ioOrientation (mulCols cols t) = applyTo (ioOrientation cols) t := by
  unfold ioOrientation mulCols applyTo
  rw [List.map_map]
  apply List.map_congr_left
  intro j _
  simp only [Function.comp_def, List.zip_map_left, List.find?_map, Prod.map_snd, id_eq]
  cases (cols.zip t).find? (fun q => q.2.1 == j) <;> rfl

/-- **C20 / C02: the permutation returned by the reordering tells where every source axis went:**
    output axis `t[i].1` carries the affine column of input axis `i` (negated when flipped), so
    `permutation[2]` is the axis along which the source slices are stacked and `permutation[0/1]`
    keep pointing along the source row / column directions -/
theorem mulCols_axis {t : List (Nat × Bool)} (ht : (t.map (·.1)).Perm [0, 1, 2]) (cols : List Col)
    (hc : cols.length = 3) (i : Nat) (hi : i < 3) :
    (mulCols cols t)[(t.getD i (0, true)).1]? =
      (cols[i]?).map fun c => { c with pos := if (t.getD i (0, true)).2 then c.pos else !c.pos } := by
  obtain ⟨hlen, hnd, hlt⟩ := perm_facts ht
  have hk : ((cols.zip t).map fun q => q.2.1).Nodup := by
    rwa [← List.map_snd_zip (l₁ := cols) (l₂ := t) (by omega), List.map_map] at hnd
  have hit : i < t.length := hlen ▸ hi
  have hic : i < cols.length := hc ▸ hi
  have hp : (cols[i], t[i]) ∈ cols.zip t :=
    List.mem_iff_getElem.2 ⟨i, by simp; omega, List.getElem_zip⟩
  have hj := hlt t[i] (List.getElem_mem _)
  simp [mulCols, List.getD_eq_getElem?_getD, hlen, hc, hi, List.getElem?_range hj,
    find?_key (fun q => q.2.1) hk hp]

/-- **C17, decision logic:** a valid code, an array of ≥ 3 dimensions, a 4×4 axis-aligned affine ⇒
    `reorder_voxels` succeeds, and the closest anatomical directions of the output axes spell the
    requested code -/
theorem reorder_spells_code (nd : Nat) (cols : List Col) (code : List Char)
    (hnd : 3 ≤ nd) (hcols : ioOrientation cols ∈ all48) (hcode : checkCode code = true) :
    ∃ t newO, reorder nd true cols code = .ok t ∧
      axcodes2ornt (code.map upperC) = some newO ∧
      ioOrientation (mulCols cols t) = newO := by
  obtain ⟨newO, hnew, hax⟩ := codes48_ornt _ ((checkCode_iff code).mp hcode)
  obtain ⟨t, ht, happ⟩ := transform_reaches_code _ _ hcols hnew
  refine ⟨t, newO, ?_, hax, ?_⟩
  · unfold reorder
    simp [hcode, hax, ht, show ¬ nd < 3 by omega]
  · rw [ioOrientation_mulCols, happ]

/-- **C17, refusals:** an invalid code, an array under 3-D or a non-4×4 affine raise ValueError -/
theorem reorder_refuses (nd : Nat) (affOk : Bool) (cols : List Col) (code : List Char)
    (h : code.map upperC ∉ codes48 ∨ nd < 3 ∨ affOk = false) :
    reorder nd affOk cols code = .valueError := by
  unfold reorder
  by_cases hc : checkCode code = true
  · rcases h with h | h | h
    · exact absurd ((checkCode_iff code).mp hc) h
    · simp [hc, h]
    · simp [hc, h]
  · simp [hc]

end Orient
