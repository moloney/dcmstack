import DcmVerif.Generated.Code_content
import DcmVerif.Proofs.Code_classes
/-! `get_keys`, `filter_meta` and `clear_slice_meta` as translated from dcmmeta.py — whole methods over the nested classification
dictionaries — against the model's `DExt.keys`, `DExt.filterMeta` and `DExt.clearSliceMeta`. -/
set_option autoImplicit false
open Cls

namespace Src
variable {α κ : Type} [DecidableEq κ]

theorem del_collected {β : Type} (F : κ × β → Bool) (d : List (κ × β)) (hn : (d.map (·.1)).Nodup) :
    ((d.filter F).map (·.1)).foldl dictDel d = d.filter fun p => !F p := by
  rw [foldl_dictDel]
  refine List.filter_congr fun p hp => congrArg (!·) ?_
  rw [Bool.eq_iff_iff, List.contains_iff_mem, List.mem_map]
  constructor
  · rintro ⟨q, hq, e⟩
    obtain ⟨hq1, hq2⟩ := List.mem_filter.mp hq
    rwa [← nodup_map_inj (·.1) d hn q p hq1 hp e]
  · exact fun hF => ⟨p, List.mem_filter.mpr ⟨hp, hF⟩, rfl⟩

/-! ### the loops of `filter_meta` -/

def filt (f : κ → List α → Bool) (d : List (κ × List α)) : List (κ × List α) := d.filter fun p => !f p.1 p.2

theorem filt_idem (f : κ → List α → Bool) (d : List (κ × List α)) : filt f (filt f d) = filt f d := by
  simp [filt, List.filter_filter]

theorem collect_loop (f : κ → List α → Bool) (d : List (κ × List α)) (acc : List κ) :
    (forIn (m := Except PyErr) d acc fun (x : κ × List α) (s : List κ) =>
        if f x.fst x.snd = true then pure (ForInStep.yield (s ++ [x.fst])) else pure (ForInStep.yield s)) =
      .ok (acc ++ (d.filter fun p => f p.1 p.2).map (·.1)) := by
  induction d generalizing acc with
  | nil => simp; rfl
  | cons x d ih =>
    rw [List.forIn_cons]
    by_cases h : f x.1 x.2 = true <;> simp [h, ih]

/-- what one round of the outer loop of `filter_meta` leaves -/
def stepC (f : κ → List α → Bool) (c : Cls) (content : Content κ α) : Content κ α :=
  content.map fun p => if p.1 = c then (p.1, filt f p.2) else p

/-- the invariant of the outer loop of `filter_meta` -/
def ContentOk (valid : List Cls) (content : Content κ α) : Prop :=
  (content.map (·.1)).Nodup ∧ (∀ c ∈ valid, c ∈ content.map (·.1)) ∧ ∀ p ∈ content, (p.2.map (·.1)).Nodup

theorem stepC_ok (f : κ → List α → Bool) (valid : List Cls) (c : Cls) (content : Content κ α)
    (h : ContentOk valid content) : ContentOk valid (stepC f c content) := by
  have hk : (stepC f c content).map (·.1) = content.map (·.1) := keys_map_if _ _ content
  refine ⟨hk ▸ h.1, hk ▸ h.2.1, fun p hp => ?_⟩
  obtain ⟨q, hq, rfl⟩ := List.mem_map.mp hp
  split
  · exact (List.filter_sublist.map _).nodup (h.2.2 q hq)
  · exact h.2.2 q hq

theorem filter_rounds (f : κ → List α → Bool) (valid : List Cls)
    (body : Cls → Content κ α → Except PyErr (ForInStep (Content κ α)))
    (hb : ∀ c ∈ valid, ∀ content, ContentOk valid content → body c content = .ok (ForInStep.yield (stepC f c content)))
    (l : List Cls) (hl : ∀ c ∈ l, c ∈ valid) (content : Content κ α) (h : ContentOk valid content) :
    forIn l content body = .ok (content.map fun p => if p.1 ∈ l then (p.1, filt f p.2) else p) := by
  induction l generalizing content with
  | nil => simp; rfl
  | cons c l ih =>
    rw [List.forIn_cons, hb c (hl c (List.mem_cons_self ..)) content h]
    simp only [ok_bind']
    rw [ih (fun c' hc' => hl c' (List.mem_cons_of_mem _ hc')) _ (stepC_ok f valid c content h), stepC, List.map_map]
    refine congrArg Except.ok (List.map_congr_left fun p _ => ?_)
    -- a classification visited twice is filtered twice, which changes nothing
    by_cases e : p.1 = c
    · by_cases m : c ∈ l <;> simp [e, m, filt_idem]
    · by_cases m : p.1 ∈ l <;> simp [e, m]

/-- **`filter_meta` as written in dcmmeta.py filters the dictionary of every valid classification** — the entries for which
    the filter function returns true are removed, every other entry and every other dictionary is left as it was -/
theorem filter_meta_eq (shape : List Nat) (valid : List Cls) (hv : Py.get_valid_classes shape = .ok valid)
    (content : Content κ α) (h : ContentOk valid content) (f : κ → List α → Bool) :
    Py.filter_meta shape content f =
      .ok (content.map fun p => if p.1 ∈ valid then (p.1, filt f p.2) else p) := by
  unfold Py.filter_meta
  simp only [hv, ok_bind', bind_pure_comp, bind_pure]
  refine filter_rounds f valid _ (fun c hc content h => ?_) valid (fun _ hc => hc) content h
  -- one round: the keys the filter accepts are collected, then deleted one by one from the dictionary of `c`
  rw [collect_loop, ok_bind', forIn_yield (fun key r => dictSet r c (dictDel (dictGet r c) key)),
    foldl_dictSet_modify dictDel c _ content h.1 (h.2.1 c hc)]
  refine congrArg (Except.ok ∘ ForInStep.yield) (List.map_congr_left fun p hp => ?_)
  by_cases e : p.1 = c
  · subst e
    rw [if_pos rfl, if_pos rfl, dictGet_mem content h.1 p hp, List.nil_append]
    exact congrArg (Prod.mk p.1) (del_collected (fun p => f p.1 p.2) p.2 (h.2.2 p hp))
  · rw [if_neg e, if_neg e]

/-! ### `clear_slice_meta`, `get_keys` -/

/-- the dictionaries of the per-slice classifications among `l` replaced by what `g` says -/
def setSlices (l : List Cls) (g : Cls → List (κ × List α)) (content : Content κ α) : Content κ α :=
  content.map fun p => if p.1 ∈ l ∧ p.1.sub = "slices" then (p.1, g p.1) else p

theorem setSlices_keys (l : List Cls) (g : Cls → List (κ × List α)) (content : Content κ α) :
    (setSlices l g content).map (·.1) = content.map (·.1) :=
  keys_map_if _ _ content

theorem setSlices_nil (g : Cls → List (κ × List α)) (content : Content κ α) : setSlices [] g content = content := by
  simp [setSlices]

/-- one round of a loop `for classes in l: if classes[1] == 'slices': content[classes] = g(classes)` -/
theorem setSlices_cons (g : Cls → List (κ × List α)) (c : Cls) (l : List Cls) (content : Content κ α)
    (hc : c ∈ content.map (·.1)) :
    setSlices l g (if c.sub = "slices" then dictSet content c (g c) else content) = setSlices (c :: l) g content := by
  unfold setSlices
  split
  · rw [dictSet_of_mem content c hc, List.map_map]
    refine List.map_congr_left fun p _ => ?_
    by_cases e : p.1 = c <;> simp [*]
  · refine List.map_congr_left fun p _ => ?_
    by_cases e : p.1 = c <;> simp [*]

theorem set_loop (g : Cls → List (κ × List α)) (l : List Cls) (content : Content κ α) (hl : ∀ c ∈ l, c ∈ content.map (·.1)) :
    (forIn (m := Except PyErr) l content fun (classes : Cls) (r : Content κ α) =>
        if (classes.sub == "slices") = true then pure (ForInStep.yield (dictSet r classes (g classes)))
        else pure (ForInStep.yield r)) =
      .ok (setSlices l g content) := by
  induction l generalizing content with
  | nil => rw [setSlices_nil]; rfl
  | cons c l ih =>
    have hc := hl c (List.mem_cons_self ..)
    have hl' : ∀ c' ∈ l, c' ∈ content.map (·.1) := fun c' hc' => hl c' (List.mem_cons_of_mem _ hc')
    rw [List.forIn_cons, ← setSlices_cons g c l content hc]
    by_cases hs : c.sub = "slices"
    · rw [if_pos (beq_iff_eq.mpr hs), if_pos hs]
      exact ih _ (by rwa [dictSet_keys content c hc])
    · rw [if_neg (mt beq_iff_eq.mp hs), if_neg hs]
      exact ih content hl'

/-- **`clear_slice_meta` as written in dcmmeta.py empties the dictionaries of the valid per-slice classifications** and leaves
    every other dictionary as it was -/
theorem clear_slice_meta_eq (shape : List Nat) (valid : List Cls) (hv : Py.get_valid_classes shape = .ok valid)
    (content : Content κ α) (h : ∀ c ∈ valid, c ∈ content.map (·.1)) :
    Py.clear_slice_meta shape content = .ok (setSlices valid (fun _ => []) content) := by
  unfold Py.clear_slice_meta
  simp only [hv, ok_bind']
  rw [set_loop (fun _ => []) valid content h]
  rfl

/-- **`get_keys` as written in dcmmeta.py lists the keys of the valid classifications**, classification by classification -/
theorem get_keys_eq (shape : List Nat) (valid : List Cls) (hv : Py.get_valid_classes shape = .ok valid)
    (content : Content κ α) :
    Py.get_keys shape content = .ok (valid.flatMap fun c => (dictGet content c).map (·.1)) := by
  unfold Py.get_keys
  simp only [hv, ok_bind']
  rw [forIn_yield (fun c r => r ++ (dictGet content c).map (·.1)), List.flatMap_eq_foldl]
  rfl

/-! ### against the model: the nested dictionaries of a `DExt` -/

/-- the dictionary of one classification: its entries in insertion order -/
def entsOf (e : DExt κ α) (c : Cls) : List (κ × List α) :=
  (e.ents.filter fun x => x.2.1 == c).map fun x => (x.1, x.2.2)

/-- `_content` of an extension (the classification dictionaries): one dictionary per valid classification -/
def toContent (e : DExt κ α) : Content κ α := (validClasses e.shp).map fun c => (c, entsOf e c)

theorem validClasses_nodup (sh : Shp) : (validClasses sh).Nodup := by
  unfold validClasses
  split
  · decide
  · split
    · decide
    · split <;> decide

theorem toContent_keys (e : DExt κ α) : (toContent e).map (·.1) = validClasses e.shp := by
  simp [toContent, List.map_map, Function.comp_def]

theorem toContent_has (e : DExt κ α) : ∀ c ∈ validClasses e.shp, c ∈ (toContent e).map (·.1) :=
  fun _ hc => (toContent_keys e).symm ▸ hc

theorem toContent_nodup (e : DExt κ α) : ((toContent e).map (·.1)).Nodup :=
  (toContent_keys e).symm ▸ validClasses_nodup _

theorem dictGet_toContent (e : DExt κ α) (c : Cls) (hc : c ∈ validClasses e.shp) : dictGet (toContent e) c = entsOf e c :=
  dictGet_mem (toContent e) (toContent_nodup e) (c, entsOf e c) (List.mem_map.mpr ⟨c, hc, rfl⟩)

theorem entsOf_keys_nodup (e : DExt κ α) (hn : (e.ents.map (·.1)).Nodup) (c : Cls) : ((entsOf e c).map (·.1)).Nodup := by
  rw [entsOf, List.map_map]
  exact (List.filter_sublist.map _).nodup hn

theorem toContent_ok (e : DExt κ α) (hn : (e.ents.map (·.1)).Nodup) : ContentOk (validClasses e.shp) (toContent e) := by
  refine ⟨toContent_nodup e, toContent_has e, fun p hp => ?_⟩
  obtain ⟨c, _, rfl⟩ := List.mem_map.mp hp
  exact entsOf_keys_nodup e hn c

theorem entsOf_filterMeta (e : DExt κ α) (drop : κ → Bool) (c : Cls) :
    entsOf (e.filterMeta drop) c = filt (fun k _ => drop k) (entsOf e c) := by
  simp only [filt, entsOf, DExt.filterMeta, List.filter_map, List.filter_filter, Function.comp_def]
  exact congrArg _ (List.filter_congr fun x _ => Bool.and_comm _ _)

/-- **`filter_meta` as written in dcmmeta.py is the model's `filterMeta`** for a filter that looks at the key (as the regular
    expression filter of C14 does), on an extension with 3 to 5 axes whose keys are unique -/
theorem filter_meta_model (e : DExt κ α) (h3 : 3 ≤ e.shape.length) (h5 : e.shape.length ≤ 5)
    (hn : (e.ents.map (·.1)).Nodup) (drop : κ → Bool) :
    Py.filter_meta e.shape (toContent e) (fun k _ => drop k) = .ok (toContent (e.filterMeta drop)) := by
  rw [filter_meta_eq e.shape _ (get_valid_classes_eq e none h3 h5) _ (toContent_ok e hn), toContent, List.map_map]
  exact congrArg Except.ok (List.map_congr_left fun c hc => by simp [hc, entsOf_filterMeta])

theorem entsOf_clearSliceMeta (e : DExt κ α) (c : Cls) :
    entsOf e.clearSliceMeta c = if c.sub = "slices" then [] else entsOf e c := by
  simp only [entsOf, DExt.clearSliceMeta, List.filter_filter, sub_slices]
  split
  · rw [List.filter_eq_nil_iff.mpr]; rfl
    intro x _
    by_cases ec : x.2.1 = c <;> simp [*]
  · refine congrArg _ (List.filter_congr fun x _ => ?_)
    by_cases ec : x.2.1 = c <;> simp [*]

theorem setSlices_toContent (e : DExt κ α) :
    setSlices (validClasses e.shp) (fun _ => []) (toContent e) = toContent e.clearSliceMeta := by
  rw [setSlices, toContent, List.map_map]
  refine List.map_congr_left fun c hc => ?_
  simp only [Function.comp, hc, true_and, entsOf_clearSliceMeta]
  split <;> rfl

/-- **`clear_slice_meta` as written in dcmmeta.py is the model's `clearSliceMeta`** -/
theorem clear_slice_meta_model (e : DExt κ α) (h3 : 3 ≤ e.shape.length) (h5 : e.shape.length ≤ 5) :
    Py.clear_slice_meta e.shape (toContent e) = .ok (toContent e.clearSliceMeta) := by
  rw [clear_slice_meta_eq e.shape _ (get_valid_classes_eq e none h3 h5) _ (toContent_has e), setSlices_toContent]

/-- **`get_keys` as written in dcmmeta.py lists exactly the model's `keys`** (classification by classification) for an
    extension whose entries sit in valid classifications -/
theorem get_keys_model (e : DExt κ α) (h3 : 3 ≤ e.shape.length) (h5 : e.shape.length ≤ 5)
    (hcls : ∀ x ∈ e.ents, x.2.1 ∈ validClasses e.shp) :
    ∃ ks, Py.get_keys e.shape (toContent e) = .ok ks ∧ ∀ k, k ∈ ks ↔ k ∈ e.keys := by
  refine ⟨_, get_keys_eq e.shape _ (get_valid_classes_eq e none h3 h5) _, ?_⟩
  intro k
  simp only [List.mem_flatMap, DExt.keys, List.mem_eraseDups, List.mem_map]
  constructor
  · rintro ⟨c, hc, p, hp, rfl⟩
    rw [dictGet_toContent e c hc] at hp
    obtain ⟨x, hx, rfl⟩ := List.mem_map.mp hp
    exact ⟨x, (List.mem_filter.mp hx).1, rfl⟩
  · rintro ⟨x, hx, rfl⟩
    refine ⟨x.2.1, hcls x hx, (x.1, x.2.2), ?_, rfl⟩
    rw [dictGet_toContent e _ (hcls x hx)]
    exact List.mem_map.mpr ⟨x, List.mem_filter.mpr ⟨hx, by simp⟩, rfl⟩

/-! the translated functions compute (tests, not theorems) -/
example : Py.filter_meta [2, 2, 2] [(gconst, [("a", [1]), ("b", [2])]), (gslices, [("c", [3, 4])])] (fun k _ => k == "a" || k == "c")
    = .ok [(gconst, [("b", [2])]), (gslices, [])] := by rfl
example : Py.clear_slice_meta [2, 2, 2] [(gconst, [("a", [1])]), (gslices, [("c", [3, 4])])]
    = .ok [(gconst, [("a", [1])]), (gslices, [])] := by rfl
example : Py.get_keys [2, 2, 2] [(gconst, [("a", [1]), ("b", [2])]), (gslices, [("c", [3, 4])])] = .ok ["a", "b", "c"] := by rfl

end Src
