import DcmVerif.Model.Phoenix
/-! Proofs about the ASCCONV line parser model (C16): what `find`, `count`, `strip`, slicing, the
comment handling and the quoted-string branch do on text of a known shape, and the line-level and
dictionary facts that follow directly. -/
set_option autoImplicit false

namespace Phx

/-! ### `find` -/

theorem isPrefixOf_cons_ne {c x : Char} (t l : Str) (h : c ≠ x) :
    (c :: t).isPrefixOf (x :: l) = false := by
  simp [List.isPrefixOf, h]

theorem findSub_skip_head (c : Char) (t H X : Str) (hH : c ∉ H) :
    findSub (c :: t) (H ++ X) = (findSub (c :: t) X).map (· + H.length) := by
  induction H with
  | nil => simp
  | cons x xs ih =>
    rw [List.cons_append, findSub, isPrefixOf_cons_ne t _ (fun e => hH (by simp [e])),
      ih (fun e => hH (by simp [e]))]
    cases findSub (c :: t) X <;> simp [Nat.add_assoc]

theorem findSub_prefix_self (sub X : Str) : findSub sub (sub ++ X) = some 0 := by
  cases hl : sub ++ X with
  | nil => simp_all [findSub]
  | cons c cs => simp [findSub, ← hl]

theorem findSub_not_mem (c : Char) (t l : Str) (h : c ∉ l) : findSub (c :: t) l = none := by
  simpa [findSub] using findSub_skip_head c t l [] h

theorem findSub_single_append (c : Char) (pre post : Str) (h : c ∉ pre) :
    findSub [c] (pre ++ c :: post) = some pre.length := by
  simpa using (findSub_skip_head c [] pre (c :: post) h).trans
    (congrArg _ (findSub_prefix_self [c] post))

theorem findI_some {sub l : Str} {i : Nat} (h : findSub sub l = some i) : findI sub l = (i : Int) := by
  simp [findI, h]

theorem findI_none {sub l : Str} (h : findSub sub l = none) : findI sub l = -1 := by
  simp [findI, h]

theorem findI_add_nat (sub l : Str) (k : Nat) (hk : 0 < k) :
    ∃ m : Nat, findI sub l + (k : Int) = (m : Int) := by
  unfold findI
  cases findSub sub l with
  | none => exact ⟨k - 1, by simp only []; omega⟩
  | some i => exact ⟨i + k, by simp only []; omega⟩

/-! ### `count` -/

theorem countGo_zero_of_short (sub : Str) (fuel : Nat) (l : Str) (h : l.length < sub.length) :
    countGo sub fuel l = 0 := by
  induction fuel generalizing l with
  | zero => simp [countGo]
  | succ n ih =>
    cases l with
    | nil => simp [countGo]
    | cons c cs =>
      have hp : ¬ (sub.isPrefixOf (c :: cs) = true) := fun hp =>
        absurd (List.IsPrefix.length_le (List.isPrefixOf_iff_prefix.mp hp)) (by omega)
      rw [countGo, if_neg hp]
      exact ih cs (by simp at h; omega)

theorem countGo_fuel (d : Str) (hd : d ≠ []) (f g : Nat) (l : Str) (hf : l.length ≤ f)
    (hg : l.length ≤ g) : countGo d f l = countGo d g l := by
  induction f generalizing g l with
  | zero => rw [List.eq_nil_of_length_eq_zero (Nat.le_zero.mp hf)]; cases g <;> rfl
  | succ n ih =>
    cases l with
    | nil => cases g <;> rfl
    | cons c cs =>
      cases g with
      | zero => simp at hg
      | succ m =>
        have := List.length_pos_iff.mpr hd
        simp only [List.length_cons] at hf hg
        rw [countGo, countGo, ih m _ (by simp; omega) (by simp; omega), ih m cs (by omega) (by omega)]

theorem countSub_cons (d : Str) (hd : d ≠ []) (c : Char) (cs : Str) :
    countSub d (c :: cs) =
      if d.isPrefixOf (c :: cs) then 1 + countSub d ((c :: cs).drop d.length) else countSub d cs := by
  have := List.length_pos_iff.mpr hd
  rw [countSub, List.length_cons, countGo,
    countGo_fuel d hd _ _ ((c :: cs).drop d.length) (by simp; omega) (Nat.le_refl _)]
  rfl

theorem countSub_skip_head (c : Char) (t H X : Str) (hH : c ∉ H) :
    countSub (c :: t) (H ++ X) = countSub (c :: t) X := by
  induction H with
  | nil => rfl
  | cons x xs ih =>
    rw [List.cons_append, countSub_cons _ (by simp),
      isPrefixOf_cons_ne t _ (fun e => hH (by simp [e]))]
    exact ih (fun e => hH (by simp [e]))

theorem countSub_not_mem (c : Char) (t A : Str) (h : c ∉ A) : countSub (c :: t) A = 0 := by
  simpa [countSub, countGo] using countSub_skip_head c t A [] h

theorem countSub_prefix_self (d : Str) (hd : d ≠ []) (X : Str) :
    countSub d (d ++ X) = 1 + countSub d X := by
  cases hl : d ++ X with
  | nil => simp_all
  | cons c cs => rw [countSub_cons d hd, ← hl, if_pos (by simp), List.drop_left]

/-! ### whitespace and `strip` -/

theorem isWs_ne {c : Char} (h : isWs c = true) : c ≠ '=' ∧ c ≠ '#' ∧ c ≠ '"' := by
  refine ⟨?_, ?_, ?_⟩ <;> (intro e; subst e; simp [isWs] at h)

theorem ws_not_mem {l : Str} (h : ∀ c ∈ l, isWs c = true) : '=' ∉ l ∧ '#' ∉ l ∧ '"' ∉ l :=
  ⟨fun m => (isWs_ne (h _ m)).1 rfl, fun m => (isWs_ne (h _ m)).2.1 rfl,
    fun m => (isWs_ne (h _ m)).2.2 rfl⟩

theorem lstrip_ws_cons (ws : Str) (a : Char) (t : Str) (h : ∀ c ∈ ws, isWs c = true)
    (ha : isWs a = false) : lstrip (ws ++ a :: t) = a :: t := by
  rw [lstrip, List.dropWhile_append_of_pos h, List.dropWhile_cons_of_neg (by simp [ha])]

theorem rstrip_ws {l : Str} (h : ∀ c ∈ l, isWs c = true) : rstrip l = [] := by
  rw [rstrip, ← List.append_nil l.reverse, List.dropWhile_append_of_pos (by simpa using h)]
  rfl

theorem rstrip_append_cons (A : Str) (a : Char) (l : Str) (ha : isWs a = false) :
    rstrip (A ++ a :: l) = A ++ a :: rstrip l := by
  simp only [rstrip, List.reverse_append, List.reverse_cons, List.append_assoc,
    List.dropWhile_append, List.singleton_append]
  cases List.dropWhile isWs l.reverse <;> simp [ha]

theorem rstrip_cons (a : Char) (l : Str) (ha : isWs a = false) : rstrip (a :: l) = a :: rstrip l :=
  rstrip_append_cons [] a l ha

theorem strip_eq_nil {l : Str} : strip l = [] ↔ ∀ c ∈ l, isWs c = true := by
  induction l with
  | nil => simp [strip, lstrip, rstrip]
  | cons a as ih =>
    cases h : isWs a with
    | true => simpa [strip, lstrip, List.dropWhile_cons, h] using ih
    | false =>
      have h1 : lstrip (a :: as) = a :: as := lstrip_ws_cons [] a as (by simp) h
      simp [strip, h1, rstrip_cons a as h, h]

/-- `(ws1 + key + ws2).strip() == key` when `key` neither starts nor ends with whitespace -/
theorem strip_sandwich (ws1 key ws2 : Str)
    (h1 : ∀ c ∈ ws1, isWs c = true) (h2 : ∀ c ∈ ws2, isWs c = true)
    (hh : ∀ x xs, key = x :: xs → isWs x = false)
    (hl : ∀ x xs, key.reverse = x :: xs → isWs x = false) :
    strip (ws1 ++ key ++ ws2) = key := by
  cases key with
  | nil => exact strip_eq_nil.mpr (by simpa [or_imp, forall_and] using ⟨h1, h2⟩)
  | cons x xs =>
    -- the same token read from its other end
    obtain ⟨y, ys, hr⟩ := List.exists_cons_of_ne_nil (l := (x :: xs).reverse) (by simp)
    have hk : x :: xs = ys.reverse ++ [y] := by simpa using congrArg List.reverse hr
    rw [strip, List.append_assoc, List.cons_append, lstrip_ws_cons ws1 x _ h1 (hh x xs rfl),
      ← List.cons_append, hk, List.append_assoc, List.singleton_append,
      rstrip_append_cons _ y ws2 (hl y ys hr), rstrip_ws h2]

/-! ### slicing with bounds that are not negative -/

theorem pySlice_nat (a b : Nat) (l : Str) : pySlice (a : Int) (b : Int) l = (l.take b).drop a := by
  have ha : ¬ ((a : Int) < 0) := by omega
  have hb : ¬ ((b : Int) < 0) := by omega
  simp only [pySlice, pyBound, ha, hb, if_false, Int.toNat_natCast, ← List.take_eq_take_min]
  by_cases h : a ≤ l.length
  · rw [Nat.min_eq_left h]
  · have := List.length_take_le' b l
    rw [List.drop_eq_nil_of_le (by omega), List.drop_eq_nil_of_le (by omega)]

theorem pySlice_from (a : Nat) (l : Str) : pySlice (a : Int) (l.length : Int) l = l.drop a := by
  rw [pySlice_nat, List.take_length]

theorem pySlice_to (b : Nat) (l : Str) : pySlice (0 : Int) (b : Int) l = l.take b :=
  pySlice_nat 0 b l

/-! ### comment handling -/

theorem stripComment_noHash (d L : Str) (h : '#' ∉ L) : stripComment d L = some L := by
  rw [stripComment, findSub_not_mem '#' [] L h]

theorem stripComment_cut (d P x : Str) (h : '#' ∉ P) (hc : countSub d P ≠ 1) :
    stripComment d (P ++ '#' :: x) = some P := by
  rw [stripComment, findSub_single_append '#' P x h]
  simp [hc]

theorem stripComment_keep (d P x : Str) (h : '#' ∉ P) (hc : countSub d P = 1)
    (hf : findSub d ('#' :: x) ≠ none) :
    stripComment d (P ++ '#' :: x) = some (P ++ '#' :: x) := by
  rw [stripComment, findSub_single_append '#' P x h]
  simp [hc, hf]

theorem stripComment_tail (d body cmt : Str) (h : '#' ∉ body) (hc : countSub d body ≠ 1)
    (hcmt : cmt = [] ∨ ∃ x, cmt = '#' :: x) : stripComment d (body ++ cmt) = some body := by
  rcases hcmt with rfl | ⟨x, rfl⟩
  · rw [List.append_nil]; exact stripComment_noHash d body h
  · exact stripComment_cut d body x h hc

/-! ### the quoted-string branch -/

/-- the quoted-string branch when the end quote (`find` + `delim_len`, which is `delim_len - 1` when
    nothing is found) is at the natural number `m` -/
theorem parseString_at (d key v : Str) (m : Nat)
    (hm : findI d (v.drop d.length) + (d.length : Int) = (m : Int)) :
    parseString d key v =
      if m + d.length = v.length ∨ ['#'].isPrefixOf (strip (v.drop (m + d.length))) = true then
        .pair key (.str ((v.take m).drop d.length))
      else .parseError := by
  have h0 : ¬ ((m : Int) = -1) := by omega
  have h1 : ¬ ((m : Int) < 0) := by omega
  have h2 : ((m : Int) + (d.length : Int)).toNat = m + d.length := by omega
  have h3 : ((m : Int) = (v.length : Int) - (d.length : Int)) = (m + d.length = v.length) := by
    apply propext; omega
  -- the test of what follows the closing delimiter, as one condition
  have guard (c : Prop) [Decidable c] (p : Bool) (a b : POut) :
      (if (if c then false else !p) = true then a else b) = if c ∨ p = true then b else a := by
    by_cases c <;> cases p <;> simp [*]
  simp only [parseString]
  unfold findI at hm
  -- found or not, the model's end quote is `m`, and both cases read the same from there
  cases hf : findSub d (v.drop d.length) <;> simp only [hf] at hm <;>
    simp only [hm, h0, h1, h2, h3, if_false, Int.toNat_natCast, guard]

/-! ### lines -/

/-- **blank lines are ignored** (any whitespace, either dialect) -/
theorem parse_blank (delim line : Str) (h : ∀ c ∈ line, isWs c = true) :
    parseLine delim line = .none := by
  simp [parseLine, stripComment_noHash delim line (ws_not_mem h).2.1, strip_eq_nil.mpr h]

/-- **comment-only lines are ignored**: optional whitespace, `#`, anything (for a delimiter of
    at least one character) -/
theorem parse_comment_only (delim ws rest : Str) (hd : delim ≠ []) (h : ∀ c ∈ ws, isWs c = true)
    (hq : countSub delim ws ≠ 1) :
    parseLine delim (ws ++ '#' :: rest) = .none := by
  simp [parseLine, stripComment_cut delim ws rest (ws_not_mem h).2.1 hq, strip_eq_nil.mpr h]

/-- **a line without `=` (and without comment) that is not blank raises the parse error** -/
theorem parse_no_equals (delim line : Str) (hh : '#' ∉ line) (he : '=' ∉ line)
    (hne : strip line ≠ []) : parseLine delim line = .parseError := by
  simp [parseLine, stripComment_noHash delim line hh, hne, findSub_not_mem '=' [] line he]

theorem parseLine_of_kept (d L pre rest key : Str)
    (hs : stripComment d L = some (pre ++ '=' :: rest)) (he : '=' ∉ pre) (hk : strip pre = key) :
    parseLine d L =
      if d.isPrefixOf (strip rest) then parseString d key (strip rest)
      else parseNumber key (strip rest) := by
  have hne : strip (pre ++ '=' :: rest) ≠ [] := fun h => by
    simpa [isWs] using strip_eq_nil.mp h '=' (by simp)
  have hdrop : (pre ++ '=' :: rest).drop (pre.length + 1) = rest := by
    rw [← List.drop_drop, List.drop_left, List.drop_one, List.tail_cons]
  simp only [parseLine, hs, if_neg hne, findSub_single_append '=' pre rest he, List.take_left', hk,
    hdrop]

/-- F8 (recorded finding): a float lexeme made only of hex digits and `e` is read as hex -/
theorem f8_hex_before_float :
    parseLine ['"', '"'] "a = 1e5".toList = .pair ['a'] (.int 485) := by decide +kernel

/-- F7 repaired: both dialects return the whole string -/
theorem string_both_dialects :
    parseLine ['"'] "b = \"str\"".toList = .pair ['b'] (.str "str".toList) ∧
    parseLine ['"', '"'] "b = \"\"str\"\"".toList = .pair ['b'] (.str "str".toList) := by
  decide +kernel

/-- `#` and `=` inside the quotes, trailing comment, both dialects (kernel-evaluated instances) -/
theorem string_with_hash_and_comment :
    parseLine ['"', '"'] "k = \"\"x#y=z\"\" # c".toList = .pair ['k'] (.str "x#y=z".toList) ∧
    parseLine ['"'] "k = \"x#y=z\" # c".toList = .pair ['k'] (.str "x#y=z".toList) ∧
    parseLine ['"', '"'] "k = 0x1F # c".toList = .pair ['k'] (.int 31) ∧
    parseLine ['"'] " k\t=  -12 ".toList = .pair ['k'] (.int (-12)) ∧
    parseLine ['"', '"'] "k = -1.5e-3".toList = .pair ['k'] (.floatLex "-1.5e-3".toList) := by
  decide +kernel

/-- malformed variants raise (kernel-evaluated instances): unterminated quote, trailing junk -/
theorem malformed_instances :
    parseLine ['"', '"'] "a = \"\"abc".toList = .parseError ∧
    parseLine ['"'] "a = \"abc".toList = .parseError ∧
    parseLine ['"', '"'] "a = \"\"abc\"\" junk".toList = .parseError ∧
    parseLine ['"'] "a = 12 junk".toList = .parseError ∧
    parseLine ['"'] "a = ".toList = .parseError := by decide +kernel

/-! ### the protocol: dictionary and loop -/

theorem prot_unknown_key (key text : Str) (h1 : key ≠ "MrPhoenixProtocol".toList)
    (h2 : key ≠ "MrProtocol".toList) : parseProt key text = .valueError := by
  unfold parseProt
  simp only [if_neg h1, if_neg h2]

def lookup (d : List (Str × PVal)) (k : Str) : Option PVal :=
  (d.find? (fun p => p.1 == k)).map (·.2)

theorem lookup_setKey (d : List (Str × PVal)) (k k2 : Str) (v : PVal) :
    lookup (setKey d k v) k2 = if k2 = k then some v else lookup d k2 := by
  induction d with
  | nil =>
    by_cases h : k2 = k
    · simp [setKey, lookup, h]
    · simp [setKey, lookup, h, Ne.symm h]
  | cons p rest ih =>
    obtain ⟨k', v'⟩ := p
    unfold lookup at ih ⊢
    by_cases e : k' = k
    · subst e
      by_cases e2 : k2 = k'
      · simp [setKey, e2]
      · simp [setKey, e2, Ne.symm e2]
    · by_cases e2 : k2 = k'
      · subst e2; simp [setKey, e]
      · simp [setKey, e, Ne.symm e2, ih]

/-- later duplicates overwrite … -/
theorem setKey_overwrites (d : List (Str × PVal)) (k : Str) (v : PVal) :
    lookup (setKey d k v) k = some v := by
  rw [lookup_setKey, if_pos rfl]

/-- … and leave every other key alone -/
theorem setKey_other (d : List (Str × PVal)) (k k2 : Str) (v : PVal) (h : k2 ≠ k) :
    lookup (setKey d k v) k2 = lookup d k2 := by
  rw [lookup_setKey, if_neg h]

/-- what one line contributes to the dictionary -/
def applyLine (d : Str) (acc : List (Str × PVal)) (l : Str) : List (Str × PVal) :=
  match parseLine d l with
  | .pair k v => setKey acc k v
  | _ => acc

theorem protLoop_append (d : Str) (pre rest : List Str) (acc : List (Str × PVal))
    (h : ∀ l ∈ pre, parseLine d l ≠ .parseError) :
    protLoop d (pre ++ rest) acc = protLoop d rest (pre.foldl (applyLine d) acc) := by
  induction pre generalizing acc with
  | nil => rfl
  | cons l ls ih =>
    have hls : ∀ x ∈ ls, parseLine d x ≠ .parseError := fun x hx => h x (by simp [hx])
    rw [List.cons_append, protLoop, List.foldl_cons, applyLine]
    cases hp : parseLine d l with
    | parseError => exact absurd hp (h l (by simp))
    | none => exact ih _ hls
    | pair k v => exact ih _ hls

/-- the protocol loop stops at the first malformed line -/
theorem protLoop_error (delim : Str) (pre : List Str) (bad : Str) (post : List Str)
    (acc : List (Str × PVal)) (hbad : parseLine delim bad = .parseError)
    (hpre : ∀ l ∈ pre, parseLine delim l ≠ .parseError) :
    protLoop delim (pre ++ bad :: post) acc = .parseError := by
  rw [protLoop_append delim pre _ acc hpre, protLoop, hbad]

end Phx
