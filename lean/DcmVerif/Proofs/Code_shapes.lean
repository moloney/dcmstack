import DcmVerif.Generated.Code_shapes
import DcmVerif.Model.Ext
import DcmVerif.Proofs.CodeLemmas
/-! the result shapes computed by `get_subset` and `from_sequence` (their `while` loops) as translated from dcmmeta.py are the model's `subsetShape` and `outShapeOf`. -/
set_option autoImplicit false

namespace Src

def trimCond (l : List Nat) : Bool := (l[l.length - 1]! == 1) && decide (l.length > 3)

theorem trimRev_cons (x : Nat) (rest : List Nat) :
    trimRev (x :: rest) = if x = 1 ∧ 3 ≤ rest.length then trimRev rest else x :: rest := by
  by_cases hx : x = 1
  · subst hx; simp [trimRev]
  · simp [trimRev, hx]

theorem whileFuel_trim : ∀ (n : Nat) (r : List Nat), r.length ≤ n →
    whileFuel trimCond List.dropLast n r.reverse = (trimRev r).reverse
  | 0, r, h => by
    obtain rfl := List.eq_nil_of_length_eq_zero (Nat.le_zero.1 h)
    rfl
  | n + 1, [], _ => by simp [whileFuel, trimCond, trimRev]
  | n + 1, x :: rest, h => by
    have hc : trimCond (x :: rest).reverse = (x == 1 && decide (3 ≤ rest.length)) := by
      simp [trimCond, Nat.lt_add_one_iff]
    rw [whileFuel, hc, trimRev_cons]
    by_cases hx : x = 1 ∧ 3 ≤ rest.length
    · simp [hx, whileFuel_trim n rest (by simp at h; omega)]
    · rw [if_neg (by simpa using hx), if_neg hx]

/-- **the result shape computed by `get_subset` as written in dcmmeta.py is the model's `subsetShape`**
    (split axis singular, trailing singular axes beyond the third removed) for every shape and axis; the
    bounded rendering of the `while` loop never runs out of rounds -/
theorem subset_shape_eq (shape : List Nat) (dim : Nat) :
    Py.subset_shape shape dim = .ok (DExt.subsetShape shape dim) := by
  simp only [Py.subset_shape, throw_bind']
  -- every round of the loop removes an axis
  refine (forIn_while_done trimCond List.dropLast _ _ _ (whileFuel_cond_false _ _ List.length ?_ _ _ (by simp))).trans ?_
  · intro r hc
    have : 3 < r.length := by simp [trimCond] at hc; exact hc.2
    simp; omega
  · have hres := whileFuel_trim shape.length (shape.set dim 1).reverse (by simp)
    rw [List.reverse_reverse] at hres
    rw [List.length_range, hres]
    rfl

theorem merge_shape_eq {κ α : Type} (first : DExt κ α) (dim n : Nat) :
    Py.merge_shape first.shape dim n = .ok (DExt.outShapeOf first dim n) := by
  simp only [Py.merge_shape, throw_bind']
  exact forIn_pad_done dim _ List.length_range first.shape _

end Src
