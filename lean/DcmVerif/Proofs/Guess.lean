import DcmVerif.Proofs.Grid
/-! C11, guessed ordering (`get_shape` when neither `time_order` nor `vector_order` is given). -/
set_option autoImplicit false
namespace Stk

theorem dimS_retime (files : List GF) (k : Nat) : dimS (retime files k) = dimS (files.map (·.f)) := by
  simp only [dimS, retime, List.map_map, Function.comp_def]

theorem dimV_retime (files : List GF) (k : Nat) : dimV (retime files k) = dimV (files.map (·.f)) := by
  simp only [dimV, retime, List.map_map, Function.comp_def]

theorem dimT_retime (files : List GF) (k : Nat) : dimT (retime files k) = dimT (files.map (·.f)) := by
  rw [dimT, dimS_retime, dimV_retime, retime, List.length_map, dimT, List.length_map]

theorem guessShape_eq_some (spacingOk : List Int → Bool) (nCands : Nat) (files : List GF)
    (out : ShapeOut) (k : Nat) (h : guessShape spacingOk nCands files = (out, some k)) :
    (possibleOrders files nCands ((files.map (·.f)).length / dimS (files.map (·.f)))).find?
        (fun k => acceptB spacingOk (retime files k)) = some k ∧
      out = .ok (dimS (files.map (·.f))) (dimT (files.map (·.f))) (dimV (files.map (·.f))) := by
  unfold guessShape at h
  simp only at h
  split at h
  · cases h
  · split at h
    · next hk => cases h; exact ⟨hk, rfl⟩
    · cases h

/-- **a guessed ordering is a real one:** when `get_shape` succeeds by guessing, the chosen key is
    present in every file, has as many distinct values as there are volumes or files, and with it
    as time ordinate the files pass every check of the explicit-ordering case (hence all the
    `accept_*` consequences: full grid, sorted positions in every volume, …) -/
theorem guess_ok_accepts (spacingOk : List Int → Bool) (nCands : Nat) (files : List GF)
    (S T V k : Nat) (h : guessShape spacingOk nCands files = (.ok S T V, some k)) :
    k ∈ possibleOrders files nCands ((files.map (·.f)).length / dimS (files.map (·.f))) ∧
    getShape spacingOk (retime files k) = .ok S T V := by
  obtain ⟨hk, e⟩ := guessShape_eq_some spacingOk nCands files _ k h
  refine ⟨List.mem_of_find?_eq_some hk, ?_⟩
  rw [getShape, if_pos (List.find?_some hk), dimS_retime, dimT_retime, dimV_retime, e]

/-- the key is the first of `sort_guesses` (among those that qualify by their value counts) under
    which the stack is complete -/
theorem guess_first (spacingOk : List Int → Bool) (nCands : Nat) (files : List GF)
    (S T V k : Nat) (h : guessShape spacingOk nCands files = (.ok S T V, some k)) :
    ∃ pre post, possibleOrders files nCands ((files.map (·.f)).length / dimS (files.map (·.f))) =
        pre ++ k :: post ∧
      ∀ k' ∈ pre, acceptB spacingOk (retime files k') = false := by
  obtain ⟨_, pre, post, hl, hpre⟩ :=
    List.find?_eq_some_iff_append.mp (guessShape_eq_some spacingOk nCands files _ k h).1
  exact ⟨pre, post, hl, fun x hx => by simpa using hpre x hx⟩

/-- more than one volume and no key works: refused -/
theorem guess_refuses (spacingOk : List Int → Bool) (nCands : Nat) (files : List GF)
    (hn : (files.map (·.f)).length ≠ 0) (hs : dimS (files.map (·.f)) ≠ 0)
    (hv : 1 < (files.map (·.f)).length / dimS (files.map (·.f)))
    (hnone : ∀ k ∈ possibleOrders files nCands ((files.map (·.f)).length / dimS (files.map (·.f))),
      acceptB spacingOk (retime files k) = false) :
    guessShape spacingOk nCands files = (.invalid, none) := by
  unfold guessShape
  simp only
  rw [if_neg (by omega), List.find?_eq_none.mpr fun k hk => by simp [hnone k hk]]

/-- a single volume needs no key -/
theorem guess_single_volume (spacingOk : List Int → Bool) (nCands : Nat) (files : List GF)
    (h : (files.map (·.f)).length / dimS (files.map (·.f)) ≤ 1) :
    guessShape spacingOk nCands files = (getShape spacingOk (files.map (·.f)), none) := by
  unfold guessShape
  simp only
  rw [if_pos (Or.inr (Or.inr h))]

/-- kernel-evaluated instance: two volumes of two slices; `EchoTime` (candidate 0) is the same in
    all files, `InstanceNumber`-like candidate 1 is unique per file: candidate 1 is chosen -/
example :
    guessShape (fun _ => true) 2
      [⟨⟨0, 0, 0, 0⟩, [some 10, some 1]⟩, ⟨⟨0, 0, 5, 1⟩, [some 10, some 2]⟩,
       ⟨⟨0, 0, 0, 2⟩, [some 10, some 3]⟩, ⟨⟨0, 0, 5, 3⟩, [some 10, some 4]⟩] =
      (.ok 2 2 1, some 1) := by decide

end Stk
