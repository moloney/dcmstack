import DcmVerif.Generated.Code_valid
import DcmVerif.Proofs.Code_classes
/-! `check_valid` as translated from dcmmeta.py is the model's `checkValid`. -/
set_option autoImplicit false

namespace Src

theorem shpOf_cv (c : CV.Content) : ShpOf c.shape (c.sliceDim.map fun d => c.shape.getD d.toNat 0) c.shp := by
  refine ⟨rfl, rfl, rfl, ?_⟩
  cases h : c.sliceDim <;> simp [CV.Content.shp, h]

theorem inter_ne_nil (A B : List String) :
    ((A.filter fun k => B.contains k).length != 0) = !A.all fun k => !B.contains k := by
  rw [Bool.eq_iff_iff]; simp

/-- **`check_valid` as written in dcmmeta.py is the model's `checkValid`** over the abstraction
    `CV.Content` of the content dictionary: it returns iff the model accepts and raises
    InvalidExtensionError otherwise -/
theorem check_valid_eq (c : CV.Content) :
    Py.check_valid c = if CV.checkValid c then .ok () else .error PyErr.invalidExtension := by
  simp only [Py.check_valid, throw_bind', CV.checkValid, CV.geometryOk, Bool.decide_and]
  -- behind the guard on the number of axes the valid classes are the model's and each loop is an `all`
  rw [guard_then (p := decide (3 ≤ c.shape.length) && decide (c.shape.length < 6)) (b := ())
    (q := (validClasses c.shp).all (CV.classOk c) && CV.uniqueOk c) ?loops]
  case loops =>
    intro hl
    simp only [Bool.and_eq_true, decide_eq_true_eq] at hl
    rw [get_valid_classes_of (shpOf_cv c) hl.1 (by omega), ok_bind',
      forIn_guard_unit PyErr.invalidExtension (CV.classOk c) _ _ ?classes,
      forIn_guard_then PyErr.invalidExtension (fun a => (validClasses c.shp).all fun b =>
        a == b || (CV.keysOf c a).all fun k => !((CV.keysOf c b).contains k)) _ _ () ?unique]
    case classes =>
      -- the dictionary of a valid class exists, is empty where the class has no values, and holds lists of `mult` values
      intro cl hv _
      rw [get_multiplicity_of (shpOf_cv c) hl.1 (by omega), if_pos hv, ok_bind',
        forIn_guard_unit PyErr.invalidExtension (fun p => p.2 == CV.EShape.sized (mult c.shp cl)) _ _
          fun _ _ _ => by simp only [bne]; exact guard_pure]
      cases hd : c.dict cl with
      | none => simp [CV.classOk, hd]
      | some d =>
        by_cases hm0 : mult c.shp cl = 0
        · cases d <;> simp [CV.classOk, hd, hm0] <;> rfl
        · by_cases hm1 : mult c.shp cl > 1
          · cases hall : d.all (fun p => p.2 == CV.EShape.sized (mult c.shp cl)) <;>
              simp [CV.classOk, hd, hall, hm0, hm1] <;> rfl
          · simp [CV.classOk, hd, hm0, hm1]; rfl
    case unique =>
      intro a _ _
      refine forIn_guard_then PyErr.invalidExtension _ _ _ _ fun b _ _ => ?_
      simp only [inter_ne_nil]
      by_cases hab : a = b
      · simp [hab]; rfl
      · cases h : (CV.keysOf c a).all fun k => !(CV.keysOf c b).contains k <;> simp [hab] <;> rfl
    cases (validClasses c.shp).all (CV.classOk c) <;> rfl
  -- the guards in front of it are the other conjuncts, in the model's order
  simp only [Bool.and_assoc]
  refine guard_then fun _ => guard_then fun _ => ?_
  cases c.sliceDim with
  | none => rfl
  | some d => exact guard_then fun _ => rfl

end Src
