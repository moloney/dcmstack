import DcmVerif.Model.Header
import DcmVerif.Proofs.StackAdd
/-! The header fields `to_nifti` derives from the files (C20): when the slice-timing block is recorded and what
it holds (`sliceTimesOf_eq_some`, `consistentFrom_iff`), `pixdim[4]` iff every file carries that repetition
time (`tr_recorded_iff`, over every sequence of `add_dcm` calls), `dim_info` through the permutation. -/
set_option autoImplicit false

namespace Stk

/-! ### slice timing -/

theorem consistentFrom_iff (n : Nat) (first acq : List Int) : ∀ (k v0 : Nat),
    consistentFrom n first acq v0 k = true ↔
      ∀ j, j < k → relTimes (volTimes n (v0 + j) acq) = first
  | 0, v0 => by simp [consistentFrom]
  | k + 1, v0 => by
    simp only [consistentFrom, Bool.and_eq_true, beq_iff_eq, consistentFrom_iff n first acq k (v0 + 1),
      Nat.forall_lt_succ_left, Nat.add_zero, Nat.add_assoc, Nat.add_comm 1]

theorem sliceTimesOf_eq_some (filesPerVol nVols n : Nat) (acq : List (Option Int)) (ts : List Int) :
    sliceTimesOf filesPerVol nVols n acq = some ts ↔
      (1 < filesPerVol ∧ acq.all Option.isSome = true) ∧
      (consistentFrom n ts (acq.map fun x => x.getD 0) 1 (nVols - 1) = true ∧
        ts.any (· ≠ 0) = true) ∧
      relTimes (volTimes n 0 (acq.map fun x => x.getD 0)) = ts := by
  unfold sliceTimesOf
  constructor
  · intro h
    split at h
    · next hc =>
      simp only at h
      split at h
      · next hcons => cases h; exact ⟨hc, hcons, rfl⟩
      · cases h
    · cases h
  · rintro ⟨hc, hcons, rfl⟩
    rw [if_pos hc]
    simp only
    rw [if_pos hcons]

/-- **when slice timing is recorded it is right for every volume**: the recorded time of slice `k`
    is the acquisition time of the file at position `k` of volume `vol` (in the file order the
    conversion uses, i.e. after the per-volume reversal) minus the earliest time of that volume —
    for every volume, not only the first -/
theorem sliceTimes_every_volume (filesPerVol nVols n : Nat) (acq : List (Option Int))
    (ts : List Int) (h : sliceTimesOf filesPerVol nVols n acq = some ts) (vol : Nat)
    (hvol : vol < nVols) :
    relTimes (volTimes n vol (acq.map fun x => x.getD 0)) = ts := by
  obtain ⟨_, ⟨hcons, _⟩, h0⟩ := (sliceTimesOf_eq_some _ _ _ _ _).mp h
  cases vol with
  | zero => exact h0
  | succ v =>
    have := (consistentFrom_iff n _ _ (nVols - 1) 1).1 hcons v (by omega)
    rwa [Nat.add_comm] at this

/-- slice timing is recorded only if every file says when it was acquired and a volume has more
    than one file -/
theorem sliceTimes_needs_all (filesPerVol nVols n : Nat) (acq : List (Option Int)) (ts : List Int)
    (h : sliceTimesOf filesPerVol nVols n acq = some ts) :
    1 < filesPerVol ∧ ∀ a, a ∈ acq → a.isSome = true :=
  have hc := ((sliceTimesOf_eq_some _ _ _ _ _).mp h).1
  ⟨hc.1, List.all_eq_true.mp hc.2⟩

/-- a volume whose relative times differ from the first volume's prevents the recording -/
theorem sliceTimes_inconsistent_none (filesPerVol nVols n : Nat) (acq : List (Option Int))
    (vol : Nat) (hvol : vol < nVols)
    (hdiff : relTimes (volTimes n vol (acq.map fun x => x.getD 0)) ≠
      relTimes (volTimes n 0 (acq.map fun x => x.getD 0))) :
    sliceTimesOf filesPerVol nVols n acq = none := by
  cases h : sliceTimesOf filesPerVol nVols n acq with
  | none => rfl
  | some ts =>
    have h1 := sliceTimes_every_volume filesPerVol nVols n acq ts h vol hvol
    have h0 := sliceTimes_every_volume filesPerVol nVols n acq ts h 0 (by omega)
    exact absurd (h1.trans h0.symm) hdiff

/-! ### repetition time -/

theorem trOf_eq_some (trs : List (Option Int)) (x : Int) : trOf trs = some x ↔ trs = [some x] := by
  match trs with
  | [] => simp [trOf]
  | [none] => simp [trOf]
  | [some y] => simp [trOf]
  | _ :: _ :: _ => simp [trOf]

theorem nodup_setInsert {β : Type} [DecidableEq β] (x : β) (l : List β) (h : l.Nodup) :
    (setInsert x l).Nodup := by
  unfold setInsert
  split
  · exact h
  · next hx =>
    rw [List.nodup_append]
    exact ⟨h, List.pairwise_singleton _ _, fun a ha b hb e => hx (List.mem_singleton.mp hb ▸ e ▸ ha)⟩

theorem addAll_trs (explicit : Bool) (cs : List Cand) (st : AddSt) : st.trs.Nodup →
    (addAll explicit st cs).1.trs.Nodup ∧
    ∀ y, y ∈ (addAll explicit st cs).1.trs ↔
      y ∈ st.trs ∨ ∃ c, c ∈ acceptedOf explicit st cs ∧ c.tr = y := by
  refine addAll_induction explicit (motive := fun st fin acc => st.trs.Nodup →
    fin.trs.Nodup ∧ ∀ y, y ∈ fin.trs ↔ y ∈ st.trs ∨ ∃ c, c ∈ acc ∧ c.tr = y) ?_ ?_ cs st
  · intro st h
    exact ⟨h, fun y => by simp⟩
  · intro st c fin acc hok ih h
    rw [addDcm_ok_state explicit st c hok] at ih
    obtain ⟨hnd, hmem⟩ := ih (nodup_setInsert c.tr st.trs h)
    refine ⟨hnd, fun y => ?_⟩
    simp only [hmem, mem_setInsert, List.mem_cons, exists_eq_or_imp, eq_comm (a := y)]
    exact or_assoc.trans or_left_comm

theorem singleton_of_members {β γ : Type} (T : List β) (A : List γ) (g : γ → β) (a : β)
    (hnd : T.Nodup) (hmem : ∀ y, y ∈ T ↔ ∃ c, c ∈ A ∧ g c = y) :
    T = [a] ↔ A ≠ [] ∧ ∀ c, c ∈ A → g c = a := by
  rw [← List.perm_singleton, List.perm_ext_iff_of_nodup hnd (List.pairwise_singleton _ _)]
  simp only [hmem, List.mem_singleton]
  constructor
  · intro h
    obtain ⟨c, hc, _⟩ := (h a).mpr rfl
    exact ⟨List.ne_nil_of_mem hc, fun c hc => (h (g c)).mp ⟨c, hc, rfl⟩⟩
  · rintro ⟨hne, hall⟩ y
    obtain ⟨c, hc⟩ := List.exists_mem_of_ne_nil A hne
    exact ⟨fun ⟨c, hc, e⟩ => e ▸ hall c hc, fun e => ⟨c, hc, e ▸ hall c hc⟩⟩

/-- **the repetition time is recorded only when it is the same in all files**: `pixdim[4]` is set
    to `x` iff the stack holds at least one file and every file it holds carries repetition time `x` -/
theorem tr_recorded_iff (explicit : Bool) (cs : List Cand) (x : Int) :
    trOf (addAll explicit AddSt.init cs).1.trs = some x ↔
      acceptedOf explicit AddSt.init cs ≠ [] ∧
      ∀ c, c ∈ acceptedOf explicit AddSt.init cs → c.tr = some x := by
  obtain ⟨hnd, hmem⟩ := addAll_trs explicit cs AddSt.init List.Pairwise.nil
  rw [trOf_eq_some]
  exact singleton_of_members _ _ Cand.tr (some x) hnd fun y => by
    rw [hmem y]
    exact or_iff_right (List.not_mem_nil)

/-! ### frequency / phase / slice axes -/

/-- the slice axis recorded is `permutation[2]`; phase and frequency are recorded only for a unique,
    known phase-encoding direction, and then they are the images of the in-plane axes -/
theorem dimInfo_spec (pes : List (Option Nat)) (p0 p1 p2 : Nat) :
    (dimInfoOf pes [p0, p1, p2]).2.2 = some p2 ∧
    (∀ d, pes = [some d] →
      dimInfoOf pes [p0, p1, p2] = (if d = 0 then (some p0, some p1, some p2) else (some p1, some p0, some p2))) ∧
    ((∀ d, pes ≠ [some d]) → (dimInfoOf pes [p0, p1, p2]).1 = none ∧ (dimInfoOf pes [p0, p1, p2]).2.1 = none) := by
  refine ⟨?_, ?_, ?_⟩
  · unfold dimInfoOf
    split
    · split <;> rfl
    · rfl
  · rintro d rfl
    simp only [dimInfoOf]
    split <;> simp
  · intro h
    unfold dimInfoOf
    split
    · rename_i d
      exact absurd rfl (h d)
    · exact ⟨rfl, rfl⟩

end Stk
