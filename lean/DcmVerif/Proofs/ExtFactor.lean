import DcmVerif.Proofs.Ext
/-! C13, second clause (keys are treated independently), at extension level: what a result of
`from_sequence` / `get_subset` says about one key is the per-key operation applied to what the inputs
say about that key — independent of which other keys are present and of their order. -/
set_option autoImplicit false

/-- what a per-key computation contributes to the result -/
def Res.kept {β : Type} : Res (Option β) → Option β
  | .ok (some b) => some b
  | _ => none

theorem Res.collect_ok {β : Type} {rs : List (Res (Option β))} {l : List β}
    (h : Res.collect rs = .ok l) : l = rs.filterMap Res.kept := by
  induction rs generalizing l with
  | nil => cases h; rfl
  | cons r rs ih =>
    unfold Res.collect at h
    split at h <;> try cases h
    rename_i ob
    split at h <;> cases h
    rename_i l' hc
    rw [ih hc]; cases ob <;> rfl

theorem Res.of_ite_ok {β : Type} {c : Prop} [Decidable c] {e x : Res β} {r : β}
    (h : (if c then e else x) = .ok r) (he : e ≠ .ok r) : ¬ c ∧ x = .ok r := by
  by_cases hc : c
  · rw [if_pos hc] at h; exact absurd h he
  · rw [if_neg hc] at h; exact ⟨hc, h⟩

namespace DExt
variable {κ α : Type} [DecidableEq κ] [DecidableEq α]

theorem find?_filterMap_key {γ δ : Type} (key : γ → κ) (key' : δ → κ) (g : γ → Option δ)
    (hg : ∀ x y, g x = some y → key' y = key x) (l : List γ) (hnd : (l.map key).Nodup) (k : κ) :
    ((l.filterMap g).find? fun y => key' y == k) = (l.find? fun x => key x == k).bind g := by
  induction l with
  | nil => rfl
  | cons a as ih =>
    rw [List.map_cons, List.nodup_cons] at hnd
    by_cases hk : key a = k
    · rw [List.find?_cons_of_pos (by simpa using hk), Option.bind_some]
      cases hga : g a with
      | none =>
        -- no later entry has key `k`
        rw [List.filterMap_cons_none hga, ih hnd.2, List.find?_eq_none.2, Option.bind_none]
        intro x hx hxk
        exact hnd.1 (hk ▸ (by simpa using hxk : key x = k) ▸ List.mem_map_of_mem hx)
      | some y =>
        rw [List.filterMap_cons_some hga, List.find?_cons_of_pos (by simp [hg a y hga, hk])]
    · rw [List.find?_cons_of_neg (by simpa using hk), ← ih hnd.2]
      cases hga : g a with
      | none => rw [List.filterMap_cons_none hga]
      | some y =>
        rw [List.filterMap_cons_some hga, List.find?_cons_of_neg (by simp [hg a y hga, hk])]

theorem find?_beq (ks : List κ) (k : κ) :
    (ks.find? fun x => x == k) = if k ∈ ks then some k else none := by
  induction ks with
  | nil => rfl
  | cons a as ih =>
    by_cases hk : a = k
    · simp [hk]
    · simp [List.find?_cons_of_neg, hk, Ne.symm hk, ih]

theorem mergeKey_fst (null : α) (sh1 osh : Shp) (sd : Option Nat) (dim : Nat) (es : List (DExt κ α))
    (use : List Bool) (k : κ) (x : κ × Cls × List α)
    (h : (mergeKey null sh1 osh sd dim es use k).kept = some x) : x.1 = k := by
  unfold mergeKey at h
  dsimp only at h
  split at h <;> try cases h
  rename_i r _
  cases r <;> cases h
  rfl

/-- **C13(b), merges:** after `from_sequence` the entry of key `k` in the result is what the per-key
    merge of the inputs' entries for `k` gives (and nothing else) — whatever other keys are
    present, in whatever order -/
theorem fromSequence_key (null : α) (es : List (DExt κ α)) (dim : Nat) (sdArg : Option Nat)
    (use : List Bool) (r : DExt κ α) (h : fromSequence null es dim sdArg use = .ok r) :
    ∃ sh1 osh sd, ∀ k,
      (r.ents.find? fun x => x.1 == k) =
        if k ∈ (es.flatMap keys).eraseDups then (mergeKey null sh1 osh sd dim es use k).kept
        else none := by
  unfold fromSequence at h
  -- every branch but the innermost returns an error
  replace h := (Res.of_ite_ok h nofun).2
  cases es with
  | nil => cases h
  | cons first rest =>
  replace h := (Res.of_ite_ok h nofun).2
  dsimp only at h
  cases hm : makeEmpty (κ := κ) (α := α) (first.outShapeOf dim (first :: rest).length) (pickSd sdArg first) <;>
    rw [hm] at h <;> try cases h
  dsimp only at h
  replace h := (Res.of_ite_ok h nofun).2
  replace h := (Res.of_ite_ok h nofun).2
  replace h := (Res.of_ite_ok h nofun).2
  split at h <;> cases h
  rename_i ents hc
  -- the witnesses are the arguments `fromSequence` itself gives `mergeKey`: unification reads them off `hc`
  refine ⟨?_, ?_, ?_, fun k => ?h⟩
  case h =>
    rw [Res.collect_ok hc, List.filterMap_map,
      find?_filterMap_key (fun k => k) (·.1) _ (fun k x => mergeKey_fst null _ _ _ dim _ use k x) _
        (by simpa using eraseDups_nodup _), find?_beq]
    split <;> rfl

omit [DecidableEq κ] in
theorem subsetEntry_fst (null : α) (sh rsh : Shp) (sdim : Option Nat) (dim idx : Nat)
    (x y : κ × Cls × List α) (h : (subsetEntry null sh rsh sdim dim idx x).kept = some y) :
    y.1 = x.1 := by
  unfold subsetEntry at h
  dsimp only at h
  split at h <;> try cases h
  split at h <;> cases h
  rfl

/-- **C13(b), subsets:** the entry of key `k` in `get_subset(dim, idx)` is what the per-key subset
    makes of the parent's entry for `k` -/
theorem getSubset_key (null : α) (e : DExt κ α) (dim idx : Nat) (r : DExt κ α)
    (h : getSubset null e dim idx = .ok r) :
    ∃ rsh, ∀ k,
      (r.ents.find? fun x => x.1 == k) =
        (e.ents.find? fun x => x.1 == k).bind
          fun x => (subsetEntry null e.shp rsh e.sliceDim dim idx x).kept := by
  unfold getSubset at h
  replace h := (Res.of_ite_ok h nofun).2
  replace h := (Res.of_ite_ok h nofun).2
  replace h := (Res.of_ite_ok h nofun).2
  have hv := (Res.of_ite_ok h nofun).1
  replace h := (Res.of_ite_ok (Res.of_ite_ok h nofun).2 nofun).2
  cases hm : makeEmpty (κ := κ) (α := α) (subsetShape e.shape dim) e.sliceDim <;>
    rw [hm] at h <;> try cases h
  rename_i r0
  dsimp only at h
  split at h <;> cases h
  rename_i ents hc
  have hnd : (e.ents.map (·.1)).Nodup := by
    simp only [Bool.not_eq_true, Bool.not_eq_false', validB, Bool.and_eq_true, decide_eq_true_eq] at hv
    exact hv.2
  exact ⟨r0.shp, fun k => by
    rw [Res.collect_ok hc, List.filterMap_map]
    exact find?_filterMap_key _ _ _ (subsetEntry_fst null _ _ _ dim idx) _ hnd k⟩

end DExt
