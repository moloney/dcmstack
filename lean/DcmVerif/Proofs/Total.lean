import DcmVerif.Proofs.Key
/-! Totality: in the regions where the lookups of a merge are proved, the merge cannot fail.
The loops of `from_sequence` never raise, whatever classes meet (`Key/Insert`, `Key/Merge`), and
`_simplify` cannot raise on a valid key (`Key/Simplify`). Hence the three-level merge of
`DicomStack.to_nifti` succeeds for every complete stack, the C01 lookup theorem holds without the
"if the merges succeed" premise, and splitting then merging cannot fail (C05). -/
set_option autoImplicit false
open Cls

namespace Total
variable {α : Type} [DecidableEq α]

/-- **the accumulation loops of `from_sequence` never fail** (slice axis) -/
theorem foldSliceK_ok (null : α) (sh1 : Shp) (rest : List (KeyState α)) (k : Nat) (acc : KeyState α) :
    ∃ r, foldSliceK null sh1 k acc rest = .ok r := by
  rw [foldSliceK_eq]
  exact foldK_ok _ (fun k a b => stepSliceK_ok null _ a b) rest k acc

/-- **the final `_simplify` of a merge never fails** on a valid global-slices key (with the F22
    repair also when a present time / vector axis is singular) -/
theorem simplify_gslices_ok (null : α) (sh : Shp) (wf : WF sh) (hsl : sh.hasSlice = true)
    (vals : List α) (hl : vals.length = sh.S * sh.T * sh.V) :
    ∃ o, simplifyK null sh gslices vals = .ok o :=
  simplifyK_ok null sh wf hsl gslices vals (by simpa [mult, hsl] using hl)

theorem simplify_moved_base (null : α) (sh : Shp) (c : Cls) (vals : List α) (d : Cls) (out : List α)
    (h : simplifyK null sh c vals = .ok (.moved d out)) : basePresent sh d = true :=
  (simplify_moved_mem null sh h).1

theorem consistent_ht (sh : Shp) (hc : Consistent sh) : sh.hasTime = true → 2 ≤ sh.T :=
  fun h => Nat.lt_of_le_of_ne hc.hT (Ne.symm (hc.htime.mp h).2)

/-! ### C01 without the premise -/

omit [DecidableEq α] in
/-- the witness the existence statements below name for the result of a call that cannot fail: what
    the call returned (with a default for the failure that `h` excludes) -/
theorem ok_result_of_run {op : Except Err (KeyState α)} {P : KeyState α → Prop} (h : ∃ r, op = .ok r ∧ P r) :
    op = .ok (op.toOption.getD none) ∧ P (op.toOption.getD none) := by
  obtain ⟨r, rfl, hp⟩ := h; exact ⟨rfl, hp⟩

/-- **C01, unconditionally (5-D result):** for every assignment of values (or absence) to the files
    of a complete S × T × V stack (T, V ≥ 2) the three levels of merging of `to_nifti` all succeed,
    and the resulting summary returns at every slice / time / vector position exactly what that file
    carried -/
theorem convert_total (null : α) (S T V : Nat) (hS : 0 < S) (hT : 2 ≤ T) (hV : 2 ≤ V)
    (val : Nat → Nat → Nat → Option α) :
    ∃ (vol : Nat → Nat → KeyState α) (vec : Nat → KeyState α) (r : KeyState α),
      (∀ t v, t < T → v < V →
        mergeSliceK null ⟨3, 1, 1, 1, true, false, false⟩
          ((List.range S).map fun s => fileKS (val s t v)) = .ok (vol t v)) ∧
      (∀ v, v < V →
        mergeTimeK null ⟨4, S, 1, 1, true, true, false⟩ ⟨3, S, 1, 1, true, false, false⟩
          ((List.range T).map fun t => vol t v) = .ok (vec v)) ∧
      mergeVecK null ⟨5, S, T, 1, true, true, true⟩ ⟨4, S, T, 1, true, true, false⟩
          ((List.range V).map vec) = .ok r ∧
      ∀ s t v, s < S → t < T → v < V →
        lookupKS null ⟨5, S, T, V, true, true, true⟩ r s t v = some ((val s t v).getD null) := by
  have hvol := fun t v => ok_result_of_run (convert_vol null S hS fun s => val s t v)
  have hvec := fun v => ok_result_of_run
    (convert_time null S T hS (Nat.zero_lt_of_lt hT) _ _ fun t _ => (hvol t v).2)
  obtain ⟨r, hr, hd⟩ := convert_vec null ⟨5, S, T, 1, true, true, true⟩
    ⟨4, S, T, 1, true, true, false⟩ V (Nat.zero_lt_of_lt hV) (vecSetup5 hS hT)
    (fun _ => Nat.ne_of_gt hT) _ _ fun v _ => (hvec v).2
  exact ⟨_, _, r, fun t v _ _ => (hvol t v).1, fun v _ => (hvec v).1, hr,
    fun s t v hs ht hv => hd.2 s t v ⟨hs, ht, hv⟩⟩

/-- **C01, unconditionally (4-D result)** -/
theorem convert_total_4d (null : α) (S T : Nat) (hS : 0 < S) (hT : 2 ≤ T)
    (val : Nat → Nat → Option α) :
    ∃ (vol : Nat → KeyState α) (r : KeyState α),
      (∀ t, t < T →
        mergeSliceK null ⟨3, 1, 1, 1, true, false, false⟩
          ((List.range S).map fun s => fileKS (val s t)) = .ok (vol t)) ∧
      mergeTimeK null ⟨4, S, 1, 1, true, true, false⟩ ⟨3, S, 1, 1, true, false, false⟩
          ((List.range T).map vol) = .ok r ∧
      ∀ s t, s < S → t < T →
        lookupKS null ⟨4, S, T, 1, true, true, false⟩ r s t 0 = some ((val s t).getD null) := by
  have hvol := fun t => ok_result_of_run (convert_vol null S hS fun s => val s t)
  obtain ⟨r, hr, hd⟩ := convert_time null S T hS (Nat.zero_lt_of_lt hT) _ _ fun t _ => (hvol t).2
  exact ⟨_, r, fun t _ => (hvol t).1, hr, fun s t hs ht => hd.2 s t 0 ⟨hs, ht, Nat.one_pos⟩⟩

/-- **C01, unconditionally (3-D result)** -/
theorem convert_total_3d (null : α) (S : Nat) (hS : 0 < S) (val : Nat → Option α) :
    ∃ r : KeyState α,
      mergeSliceK null ⟨3, 1, 1, 1, true, false, false⟩
        ((List.range S).map fun s => fileKS (val s)) = .ok r ∧
      ∀ s, s < S →
        lookupKS null ⟨3, S, 1, 1, true, false, false⟩ r s 0 0 = some ((val s).getD null) := by
  obtain ⟨r, hr, hd⟩ := convert_vol null S hS val
  exact ⟨r, hr, fun s hs => hd.2 s 0 0 ⟨hs, Nat.one_pos, Nat.one_pos⟩⟩

/-- **C01, unconditionally (5-D result with a single time point, shape (x,y,z,1,V)):** the volumes
    are merged directly along the vector axis -/
theorem convert_total_5d_t1 (null : α) (S V : Nat) (hS : 0 < S) (hV : 0 < V)
    (val : Nat → Nat → Option α) :
    ∃ (vol : Nat → KeyState α) (r : KeyState α),
      (∀ v, v < V →
        mergeSliceK null ⟨3, 1, 1, 1, true, false, false⟩
          ((List.range S).map fun s => fileKS (val s v)) = .ok (vol v)) ∧
      mergeVecK null ⟨5, S, 1, 1, true, false, true⟩ ⟨3, S, 1, 1, true, false, false⟩
          ((List.range V).map vol) = .ok r ∧
      ∀ s v, s < S → v < V →
        lookupKS null ⟨5, S, 1, V, true, false, true⟩ r s 0 v = some ((val s v).getD null) := by
  have hvol := fun v => ok_result_of_run (convert_vol null S hS fun s => val s v)
  obtain ⟨r, hr, hd⟩ := convert_vec null ⟨5, S, 1, 1, true, false, true⟩
    ⟨3, S, 1, 1, true, false, false⟩ V hV
    (vecSetup_of hS Nat.one_pos rfl rfl rfl rfl rfl rfl (Or.inl ⟨rfl, rfl⟩)) (fun h => by cases h)
    _ (fun s _ v => some ((val s v).getD null)) fun v _ => (hvol v).2
  exact ⟨_, r, fun v _ => (hvol v).1, hr, fun s v hs hv => hd.2 s 0 v ⟨hs, Nat.one_pos, hv⟩⟩

/-- **C07 for conversion:** the key state embedded by `to_nifti` for a complete S × T × V stack is
    valid for the shape of the image -/
theorem convert_valid (null : α) (S T V : Nat) (hS : 0 < S) (hT : 2 ≤ T)
    (val : Nat → Nat → Nat → Option α)
    (vol : Nat → Nat → KeyState α) (vec : Nat → KeyState α) (r : KeyState α)
    (hvol : ∀ t v, t < T → v < V →
      mergeSliceK null ⟨3, 1, 1, 1, true, false, false⟩
        ((List.range S).map fun s => fileKS (val s t v)) = .ok (vol t v))
    (hvec : ∀ v, v < V →
      mergeTimeK null ⟨4, S, 1, 1, true, true, false⟩ ⟨3, S, 1, 1, true, false, false⟩
        ((List.range T).map fun t => vol t v) = .ok (vec v))
    (hfin : mergeVecK null ⟨5, S, T, 1, true, true, true⟩ ⟨4, S, T, 1, true, true, false⟩
        ((List.range V).map vec) = .ok r) :
    ValidK ⟨5, S, T, V, true, true, true⟩ r := by
  rcases Nat.eq_zero_or_pos V with rfl | hV
  · cases hfin
  · exact (convert_den null S T V hS hT hV val vol vec r hvol hvec hfin).1

/-! ### C05 without premises -/

/-- **C05 without premises (slice axis):** splitting a canonical key and merging the pieces back
    both succeed and reproduce the key -/
theorem split_merge_slice_total (null : α) (sh : Shp) (hc : Consistent sh) (hS2 : 2 ≤ sh.S)
    (ks : KeyState α) (hv : ValidK sh ks) (hcan : Canonical null sh ks) :
    ∃ (pieces : Nat → KeyState α) (r : KeyState α),
      (∀ i, i < sh.S → subsetSliceK null sh ks i = .ok (pieces i)) ∧
      mergeSliceK null sh ((List.range sh.S).map pieces) = .ok r ∧ r = ks :=
  have hp := fun i hi => (ok_result_of_run (subsetSlice_run null sh hc (Den.self hv) i hi)).1
  ⟨_, ks, hp, split_merge_slice_run null sh hc hS2 ks hv hcan _ hp, rfl⟩

/-- **C05 without premises (time axis of a 4-D extension)** -/
theorem split_merge_time_total (null : α) (sh : Shp) (hc : Consistent sh) (h4 : sh.nd = 4)
    (ks : KeyState α) (hv : ValidK sh ks) (hcan : Canonical null sh ks) :
    ∃ (pieces : Nat → KeyState α) (r : KeyState α),
      (∀ i, i < sh.T → subsetTimeK null sh ks i = .ok (pieces i)) ∧
      mergeTimeK null sh (timeSubsetShp sh) ((List.range sh.T).map pieces) = .ok r ∧ r = ks :=
  have hp := fun i hi => (ok_result_of_run (subsetTime_run null sh hc (Or.inl h4)
    (fun h5 => absurd (h4.symm.trans h5) (by decide)) (Den.self hv) i hi)).1
  ⟨_, ks, hp, split_merge_time_run null sh hc h4 ks hv hcan _ hp, rfl⟩

/-- **C05 without premises (vector axis of a 5-D extension)** -/
theorem split_merge_vec_total (null : α) (sh : Shp) (hc : Consistent sh) (h5 : sh.nd = 5)
    (hV2 : 2 ≤ sh.V)
    (ks : KeyState α) (hv : ValidK sh ks) (hcan : Canonical null sh ks) :
    ∃ (pieces : Nat → KeyState α) (r : KeyState α),
      (∀ i, i < sh.V → subsetVecK null sh ks i = .ok (pieces i)) ∧
      mergeVecK null sh (vecSubsetShp sh) ((List.range sh.V).map pieces) = .ok r ∧ r = ks :=
  have hp := fun i hi => (ok_result_of_run (subsetVec_run null sh hc h5 (Den.self hv) i hi)).1
  ⟨_, ks, hp, split_merge_vec_run null sh hc h5 hV2 ks hv hcan _ hp, rfl⟩

end Total
