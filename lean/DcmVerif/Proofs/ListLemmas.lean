/-! Facts about lists and index arithmetic that mention no part of the model: mixed-radix indices,
blocks cut with `drop` / `take`, concatenations of equal-length blocks, lookups by a key, duplicates,
`span`. -/
set_option autoImplicit false

/-! ### mixed-radix arithmetic -/

theorem add_mul_mod' (a n b : Nat) (h : a < n) : (a + n * b) % n = a := by
  rw [Nat.add_mul_mod_self_left, Nat.mod_eq_of_lt h]

theorem add_mul_div' (a n b : Nat) (h : a < n) : (a + n * b) / n = b := by
  rw [Nat.add_mul_div_left _ _ (by omega), Nat.div_eq_of_lt h, Nat.zero_add]

theorem lt_mul_of' (a b S T : Nat) (ha : a < S) (hb : b < T) : a + S * b < S * T :=
  calc a + S * b < S + S * b := by omega
    _ = S * (b + 1) := by rw [Nat.mul_add, Nat.mul_one, Nat.add_comm]
    _ ≤ S * T := Nat.mul_le_mul_left S hb

theorem radix_assoc (s S t T v : Nat) : s + S * (t + T * v) = (s + S * t) + (S * T) * v := by
  rw [Nat.mul_add, Nat.mul_assoc, Nat.add_assoc]

theorem block_le (n b k : Nat) (hb : b < k) : b * n + n ≤ n * k :=
  calc b * n + n = n * (b + 1) := by rw [Nat.mul_add, Nat.mul_one, Nat.mul_comm]
    _ ≤ n * k := Nat.mul_le_mul_left _ hb

theorem radix_decomp (S T V i : Nat) (hS : 0 < S) (hT : 0 < T) (hi : i < S * (T * V)) :
    ∃ s t v, s < S ∧ t < T ∧ v < V ∧ i = s + S * (t + T * v) := by
  refine ⟨i % S, (i / S) % T, (i / S) / T, Nat.mod_lt _ hS, Nat.mod_lt _ hT,
    Nat.div_lt_of_lt_mul (Nat.div_lt_of_lt_mul hi), ?_⟩
  have h1 := Nat.div_add_mod i S
  have h2 := Nat.div_add_mod (i / S) T
  rw [Nat.add_comm ((i / S) % T), h2]; omega

theorem exists_lt_of_not_forall {n : Nat} {P : Nat → Prop} (h : ¬ ∀ i, i < n → P i) :
    ∃ i, i < n ∧ ¬ P i :=
  Classical.byContradiction fun hne =>
    h fun i hi => Classical.byContradiction fun hx => hne ⟨i, hi, hx⟩

/-! ### lookups by a key, duplicates -/

theorem find?_key {γ κ : Type} [BEq κ] [LawfulBEq κ] (k : γ → κ) {l : List γ} (hl : (l.map k).Nodup)
    {p : γ} (hp : p ∈ l) : l.find? (fun q => k q == k p) = some p := by
  induction l with
  | nil => cases hp
  | cons x xs ih =>
    rw [List.map_cons, List.nodup_cons] at hl
    rcases List.mem_cons.1 hp with rfl | hp
    · exact List.find?_cons_of_pos (by simp)
    · have : k x ≠ k p := fun h => hl.1 (h ▸ List.mem_map_of_mem hp)
      rw [List.find?_cons_of_neg (by simpa using this)]
      exact ih hl.2 hp

theorem nodup_map_inj {β γ : Type} (g : β → γ) (l : List β) (h : (l.map g).Nodup)
    (a b : β) (ha : a ∈ l) (hb : b ∈ l) : g a = g b → a = b :=
  List.Pairwise.forall_of_forall_of_flip (R := fun a b => g a = g b → a = b) (fun _ _ _ => rfl)
    ((List.pairwise_map.mp h).imp fun hne e => absurd e hne)
    ((List.pairwise_map.mp h).imp fun hne e => absurd e.symm hne) ha hb

theorem pairwise_mem_cases {β : Type} (R : β → β → Prop) (l : List β) (h : l.Pairwise R)
    (a b : β) (ha : a ∈ l) (hb : b ∈ l) : a = b ∨ R a b ∨ R b a :=
  List.Pairwise.forall_of_forall_of_flip (R := fun a b => a = b ∨ R a b ∨ R b a)
    (fun _ _ => Or.inl rfl) (h.imp fun h => Or.inr (Or.inl h)) (h.imp fun h => Or.inr (Or.inr h)) ha hb

theorem eraseDups_nodup {κ : Type} [DecidableEq κ] (l : List κ) : l.eraseDups.Nodup := by
  induction h : l.length using Nat.strongRecOn generalizing l with
  | _ n ih =>
    cases l with
    | nil => simp [List.eraseDups]
    | cons a as =>
      rw [List.eraseDups_cons]
      refine List.nodup_cons.mpr ⟨?_, ?_⟩
      · intro hm
        have := (List.mem_eraseDups.mp hm)
        simp [List.mem_filter] at this
      · subst h
        exact ih _ (by simp; exact Nat.lt_succ_of_le (List.length_filter_le _ _)) _ rfl

section lists
variable {α : Type}

/-! ### `range`, `span` -/

theorem map_range_ne_nil {n : Nat} (hn : 0 < n) (p : Nat → α) : (List.range n).map p ≠ [] := by
  simp [Nat.ne_of_gt hn]

theorem getD_map_range {n i : Nat} (hi : i < n) (p : Nat → α) (d : α) :
    ((List.range n).map p)[i]?.getD d = p i := by
  rw [List.getElem?_map, List.getElem?_range hi]; rfl

theorem span_loop_eq (p : α → Bool) (l acc : List α) :
    List.span.loop p l acc = (acc.reverse ++ l.takeWhile p, l.dropWhile p) := by
  induction l generalizing acc with
  | nil => simp [List.span.loop]
  | cons a as ih =>
    by_cases ha : p a = true
    · simp [List.span.loop, ha, ih]
    · simp [List.span.loop, ha]

theorem span_eq (p : α → Bool) (l : List α) : l.span p = (l.takeWhile p, l.dropWhile p) := by
  unfold List.span
  rw [span_loop_eq]; simp

/-! ### blocks -/

theorem getElem?_drop_take (l : List α) (a n i : Nat) (hi : i < n) :
    ((l.drop a).take n)[i]? = l[a + i]? := by
  rw [List.getElem?_take_of_lt hi, List.getElem?_drop]

theorem getElem?_block (l : List α) (B b i : Nat) (hi : i < B) :
    ((l.drop (b * B)).take B)[i]? = l[i + B * b]? := by
  rw [getElem?_drop_take _ _ _ _ hi, Nat.mul_comm, Nat.add_comm]

theorem length_block (l : List α) (n b k : Nat) (hl : n * k ≤ l.length) (hb : b < k) :
    ((l.drop (b * n)).take n).length = n := by
  have := block_le n b k hb
  rw [List.length_take, List.length_drop]; omega

/-! ### concatenations of equal-length blocks -/

theorem length_flatten_const (n : Nat) (bs : List (List α)) (h : ∀ b ∈ bs, b.length = n) :
    bs.flatten.length = bs.length * n := by
  rw [List.length_flatten, List.map_congr_left (g := fun _ => n) h, List.map_const',
    List.sum_replicate_nat]

theorem flatten_getElem? (n : Nat) (bs : List (List α)) (h : ∀ b ∈ bs, b.length = n)
    (i j : Nat) (hi : i < bs.length) (hj : j < n) :
    bs.flatten[i * n + j]? = (bs[i]?).bind (·[j]?) := by
  induction bs generalizing i with
  | nil => cases hi
  | cons b rest ih =>
    have hb : b.length = n := h b List.mem_cons_self
    rw [List.flatten_cons]
    cases i with
    | zero => rw [Nat.zero_mul, Nat.zero_add, List.getElem?_append_left (hb ▸ hj)]; rfl
    | succ i =>
      rw [List.getElem?_append_right (by rw [hb, Nat.succ_mul]; omega), hb,
        show (i + 1) * n + j - n = i * n + j by rw [Nat.succ_mul]; omega,
        ih (fun x hx => h x (List.mem_cons_of_mem _ hx)) i (by simpa using hi)]
      rfl

theorem length_flatMap_range (S : Nat) (f : Nat → List α) (V : Nat)
    (h : ∀ v, v < V → (f v).length = S) : ((List.range V).flatMap f).length = S * V := by
  rw [List.flatMap_def, length_flatten_const S _
      (List.forall_mem_map.2 fun v hv => h v (List.mem_range.1 hv)),
    List.length_map, List.length_range, Nat.mul_comm]

theorem getElem?_flatMap_range (S : Nat) (f : Nat → List α) (V : Nat)
    (h : ∀ v, v < V → (f v).length = S) (v s : Nat) (hv : v < V) (hs : s < S) :
    ((List.range V).flatMap f)[s + S * v]? = (f v)[s]? := by
  rw [List.flatMap_def, Nat.add_comm, Nat.mul_comm, flatten_getElem? S _
      (List.forall_mem_map.2 fun v hv => h v (List.mem_range.1 hv)) v s (by simpa using hv) hs,
    List.getElem?_map, List.getElem?_range hv]
  rfl

end lists
