import DcmVerif.Model.Wrap
/-! Proofs about the wrapper-level model (`Model/Wrap.lean`): voxel data and affines of
`NiftiWrapper.split` / `NiftiWrapper.from_sequence`, the fill of `DicomStack.get_data`. -/
set_option autoImplicit false

namespace Wrap
variable {α : Type}

/-- `x` is an in-bounds index of an array of shape `s` -/
def InRange : List Nat → List Nat → Prop
  | [], [] => True
  | n :: ns, i :: is => i < n ∧ InRange ns is
  | _, _ => False

/-- where input `i`'s voxel `x` lands in the merged array: `i` on the merge axis (inserted behind
    padding zeros when the inputs do not have that axis) -/
def embed : List Nat → Nat → Nat → List Nat
  | [], 0, i => [i]
  | [], d + 1, i => 0 :: embed [] d i
  | _ :: x, 0, i => i :: x
  | a :: x, d + 1, i => a :: embed x d i

/-- the merge axis is absent from, or singular in, the input shape -/
def Singular : List Nat → Nat → Prop
  | [], _ => True
  | n :: _, 0 => n = 1
  | _ :: ns, d + 1 => Singular ns d

theorem inRange_length : ∀ (s x : List Nat), InRange s x → x.length = s.length
  | [], [], _ => rfl
  | [], _ :: _, h => h.elim
  | _ :: _, [], h => h.elim
  | _ :: ns, _ :: is, h => congrArg (· + 1) (inRange_length ns is h.2)

/-! ### the fill of `from_sequence` -/

/-! On an axis of length `n` that is not the merge axis the fill indexes with
`if n = 1 then 0 else slice(None)`: every in-range coordinate is selected, a singular axis is
dropped from the view and put back by `unsqueeze`. -/

theorem selects_axis {n i : Nat} (ss : List Spec) (x : List Nat) (h : i < n) :
    selects ((if n = 1 then .int 0 else .full) :: ss) (i :: x) = selects ss x := by
  split
  · obtain rfl : i = 0 := by omega
    exact Bool.true_and _
  · rfl

theorem unsq_axis {n i : Nat} (ss : List Spec) (ns x : List Nat) (h : i < n) :
    unsqueeze (n :: ns) (project ((if n = 1 then .int 0 else .full) :: ss) (i :: x)) =
      i :: unsqueeze ns (project ss x) := by
  rw [unsqueeze]
  split
  · obtain rfl : i = 0 := by omega
    rfl
  · rfl

theorem view_axis (n : Nat) (ss : List Spec) (ns : List Nat) :
    viewShape ((if n = 1 then .int 0 else .full) :: ss) (n :: ns) =
      if n = 1 then viewShape ss ns else n :: viewShape ss ns := by
  split <;> rfl

theorem filter_ne_one_cons (n : Nat) (ns : List Nat) :
    (n :: ns).filter (· ≠ 1) = if n = 1 then ns.filter (· ≠ 1) else n :: ns.filter (· ≠ 1) := by
  rw [List.filter_cons]
  simp

theorem selects_fill' : ∀ (s x : List Nat), InRange s x → selects (fillSpecs.fillSpecs' s) x = true
  | [], [], _ => rfl
  | [], _ :: _, h => h.elim
  | _ :: _, [], h => h.elim
  | _ :: ns, _ :: is, h => by
    rw [fillSpecs.fillSpecs', selects_axis _ _ h.1]
    exact selects_fill' ns is h.2

theorem unsq_fill' : ∀ (s x : List Nat), InRange s x →
    unsqueeze s (project (fillSpecs.fillSpecs' s) x) = x
  | [], [], _ => rfl
  | [], _ :: _, h => h.elim
  | _ :: _, [], h => h.elim
  | _ :: ns, _ :: is, h => by
    rw [fillSpecs.fillSpecs', unsq_axis _ _ _ h.1, unsq_fill' ns is h.2]

theorem view_fill' : ∀ (s : List Nat), viewShape (fillSpecs.fillSpecs' s) s = s.filter (· ≠ 1)
  | [] => rfl
  | n :: ns => by rw [fillSpecs.fillSpecs', view_axis, view_fill' ns, filter_ne_one_cons]

/-! The cases of `mergeShape`, in order: the merge axis appended behind the input's axes, a padding
axis before that, the merge axis among the input's axes (an integer index, then `fillSpecs'` on the
axes behind it), an input axis before it. -/

theorem selects_fill : ∀ (s : List Nat) (d n i j : Nat) (x : List Nat), InRange s x → Singular s d →
    selects (fillSpecs (mergeShape s d n) d i) (embed x d j) = (i == j) := by
  intro s d n i j x h hs
  fun_induction mergeShape s d n generalizing x with
  | case1 => cases x with
    | nil => exact Bool.and_true _
    | cons => exact h.elim
  | case2 d n ih => cases x with
    | nil => rw [fillSpecs, embed, selects_axis _ _ Nat.one_pos, ih [] trivial trivial]
    | cons => exact h.elim
  | case3 a s n => cases x with
    | nil => exact h.elim
    | cons x0 x => rw [fillSpecs, embed, selects, selects_fill' s x h.2, Bool.and_true]
  | case4 a s d n ih => cases x with
    | nil => exact h.elim
    | cons x0 x => rw [fillSpecs, embed, selects_axis _ _ h.1, ih x h.2 hs]

theorem unsq_fill : ∀ (s : List Nat) (d n i : Nat) (x : List Nat), InRange s x → Singular s d →
    unsqueeze s (project (fillSpecs (mergeShape s d n) d i) (embed x d i)) = x := by
  intro s d n i x h hs
  fun_induction mergeShape s d n generalizing x with
  | case1 | case2 => cases x with
    | nil => rfl
    | cons => exact h.elim
  | case3 a s n => cases x with
    | nil => exact h.elim
    | cons x0 x =>
      obtain rfl : a = 1 := hs
      obtain rfl : x0 = 0 := Nat.lt_one_iff.1 h.1
      rw [fillSpecs, embed, project, unsqueeze, if_pos rfl, unsq_fill' s x h.2]
  | case4 a s d n ih => cases x with
    | nil => exact h.elim
    | cons x0 x => rw [fillSpecs, embed, unsq_axis _ _ _ h.1, ih x h.2 hs]

theorem view_fill : ∀ (s : List Nat) (d n i : Nat), Singular s d →
    viewShape (fillSpecs (mergeShape s d n) d i) (mergeShape s d n) = s.filter (· ≠ 1) := by
  intro s d n i hs
  fun_induction mergeShape s d n with
  | case1 => rfl
  | case2 d n ih => rw [fillSpecs, view_axis, if_pos rfl, ih trivial]
  | case3 a s n =>
    obtain rfl : a = 1 := hs
    rw [fillSpecs, viewShape, view_fill' s, filter_ne_one_cons, if_pos rfl]
  | case4 a s d n ih => rw [fillSpecs, view_axis, ih hs, filter_ne_one_cons]

theorem fillLoop_shape (rshape : List Nat) (dim : Nat) :
    ∀ (inputs : List (Arr α)) (i : Nat) (r : Arr α), (fillLoop rshape dim inputs i r).shape = r.shape
  | [], _, _ => rfl
  | _ :: rest, i, _ => fillLoop_shape rshape dim rest (i + 1) _

theorem assign_fill (s : List Nat) (d n : Nat) (hs : Singular s d) (r a : Arr α) (ha : a.shape = s)
    (i j : Nat) (x : List Nat) (hx : InRange s x) :
    (r.assign (fillSpecs (mergeShape s d n) d i) a.squeeze).el (embed x d j) =
      if i = j then a.el x else r.el (embed x d j) := by
  simp only [Arr.assign, selects_fill s d n i j x hx hs, beq_iff_eq]
  split
  next h =>
    subst h
    simp only [Arr.squeeze, ha, unsq_fill s d n i x hx hs]
  next => rfl

theorem fillLoop_el (s : List Nat) (d n : Nat) (hs : Singular s d) :
    ∀ (inputs : List (Arr α)) (i0 : Nat) (r : Arr α), (∀ a ∈ inputs, a.shape = s) →
    ∀ (j : Nat) (x : List Nat), InRange s x →
      (fillLoop (mergeShape s d n) d inputs i0 r).el (embed x d j) =
        if h : i0 ≤ j ∧ j - i0 < inputs.length then (inputs[j - i0]'h.2).el x else r.el (embed x d j)
  | [], i0, r, _, j, x, _ => by simp [fillLoop]
  | a :: rest, i0, r, hsh, j, x, hx => by
    rw [fillLoop, fillLoop_el s d n hs rest (i0 + 1) _ (fun b hb => hsh b (List.mem_cons_of_mem _ hb))
      j x hx, assign_fill s d n hs r a (hsh a List.mem_cons_self) i0 j x hx]
    -- `j` lies before, at, or behind the position `i0` just written
    obtain hlt | rfl | hgt := Nat.lt_trichotomy j i0
    · rw [dif_neg (by omega), dif_neg (by omega), if_neg (by omega)]
    · rw [dif_neg (by omega), if_pos rfl, dif_pos (by simp)]
      simp
    · obtain ⟨m, rfl⟩ : ∃ m, j = i0 + 1 + m := ⟨_, (Nat.add_sub_cancel' hgt).symm⟩
      have e : i0 + 1 + m - i0 = m + 1 := by omega
      simp [e, Nat.ne_of_lt hgt, Nat.le_of_lt hgt]

theorem singular_iff : ∀ (s : List Nat) (d : Nat),
    Singular s d ↔ ¬ (d < s.length ∧ s.getD d 0 ≠ 1)
  | [], _ => by simp [Singular]
  | n :: ns, 0 => by simp [Singular]
  | n :: ns, d + 1 => by simp [Singular, singular_iff ns d]

/-- **merged voxel data is the inputs stacked in input order**: any number of inputs of one shape
    whose merge axis is absent or singular -/
theorem mergeData_spec' (blank : α) (inputs : List (Arr α)) (dim : Nat) (s : List Nat)
    (hne : inputs ≠ []) (hsh : ∀ a ∈ inputs, a.shape = s) (hdim : dim < 5) (hs : Singular s dim) :
    ∃ r, mergeData blank inputs dim = .ok r ∧ r.shape = mergeShape s dim inputs.length ∧
      ∀ (i : Nat) (a : Arr α), inputs[i]? = some a → ∀ x, InRange s x →
        r.el (embed x dim i) = a.el x := by
  cases inputs with
  | nil => exact absurd rfl hne
  | cons first rest =>
    refine ⟨fillLoop (mergeShape s dim (rest.length + 1)) dim (first :: rest) 0
      ⟨mergeShape s dim (rest.length + 1), fun _ => blank⟩, ?_, fillLoop_shape _ _ _ _ _, ?_⟩
    · simp only [mergeData, hsh first List.mem_cons_self, List.length_cons]
      rw [if_neg (not_not_intro hdim), if_neg ((singular_iff s dim).1 hs), if_pos]
      -- every input squeezes to the shape of the region it is written to
      rw [List.all_eq_true]
      intro a ha
      rw [hsh a ha, view_fill s dim _ 0 hs]
      exact beq_self_eq_true _
    · intro i a hi x hx
      obtain ⟨hlt, rfl⟩ := List.getElem?_eq_some_iff.1 hi
      rw [fillLoop_el s dim _ hs _ 0 _ hsh i x hx, dif_pos ⟨Nat.zero_le _, hlt⟩]
      rfl

/-- `from_sequence` refuses a merge axis that is present and not singular -/
theorem mergeData_refuses (blank : α) (first : Arr α) (rest : List (Arr α)) (dim : Nat)
    (h : ¬ dim < 5 ∨ (dim < first.shape.length ∧ first.shape.getD dim 0 ≠ 1)) :
    mergeData blank (first :: rest) dim = .error .valueError := by
  simp only [mergeData]
  split
  · rfl
  · rw [if_pos (h.resolve_left ‹_›)]

/-! ### the data of `split` -/

/-- an index of a piece, padded with zeros to the parent's number of axes -/
def pad (n : Nat) (x : List Nat) : List Nat := x ++ List.replicate (n - x.length) 0

theorem pad_eq {n k : Nat} {x : List Nat} (h : x.length + k = n) :
    pad n x = x ++ List.replicate k 0 := by
  rw [pad, ← h, Nat.add_sub_cancel_left]

theorem inRange_getElem? : ∀ (s x : List Nat) (d n : Nat), InRange s x → s[d]? = some n →
    ∃ i, x[d]? = some i ∧ i < n
  | [], _, _, _, _, h => by simp at h
  | _ :: _, [], _, _, h, _ => h.elim
  | _ :: _, b :: _, 0, _, h, hn => ⟨b, rfl, Option.some.inj hn ▸ h.1⟩
  | _ :: s, _ :: x, d + 1, n, h, hn => inRange_getElem? s x d n h.2 hn

theorem inRange_ones : ∀ (k : Nat) (y : List Nat), InRange (List.replicate k 1) y ↔ y = List.replicate k 0
  | 0, [] => by simp [InRange]
  | 0, _ :: _ => by simp [InRange]
  | k + 1, [] => by simp [InRange, List.replicate_succ]
  | k + 1, b :: y => by simp [InRange, List.replicate_succ, inRange_ones k y]

theorem inRange_append (u : List Nat) : ∀ (t y : List Nat),
    InRange (t ++ u) y ↔ InRange t (y.take t.length) ∧ InRange u (y.drop t.length)
  | [], y => by simp [InRange]
  | a :: t, [] => by simp [InRange]
  | a :: t, b :: y => by simp [InRange, inRange_append u t y, and_assoc]

/-- the list the code builds: `slices = [slice(None)] * len(shape)`, then `slices[dim] = ...` -/
theorem splitSpecs_eq (n dim idx : Nat) :
    splitSpecs n dim idx = (List.replicate n Spec.full).set dim (splitSpec n dim idx dim) := by
  apply List.ext_getElem (by simp [splitSpecs])
  intro i h1 h2
  simp only [splitSpecs, List.getElem_map, List.getElem_range, List.getElem_set, List.getElem_replicate]
  split
  · subst_vars; rfl
  · simp [splitSpec, *]; omega

theorem viewShape_full : ∀ s : List Nat, viewShape (List.replicate s.length .full) s = s
  | [] => rfl
  | a :: s => by simp [List.replicate_succ, viewShape, viewShape_full s]

theorem expand_full : ∀ (n : Nat) (y : List Nat), y.length = n → expand (List.replicate n .full) y = y
  | _, [], rfl => rfl
  | _, a :: y, rfl => by simp [List.replicate_succ, expand, expand_full _ y rfl]

theorem viewShape_one (idx : Nat) : ∀ (dim : Nat) (s : List Nat),
    viewShape ((List.replicate s.length .full).set dim (.one idx)) s = s.set dim 1
  | _, [] => rfl
  | 0, a :: s => by simp [List.replicate_succ, viewShape, viewShape_full s]
  | dim + 1, a :: s => by simp [List.replicate_succ, viewShape, viewShape_one idx dim s]

theorem expand_one (idx : Nat) : ∀ (dim n : Nat) (y : List Nat), y.length = n → y[dim]? = some 0 →
    expand ((List.replicate n .full).set dim (.one idx)) y = y.set dim idx
  | _, _, [], _, h => by simp at h
  | 0, _, a :: y, rfl, h => by simp at h; simp [List.replicate_succ, expand, expand_full _ y rfl, h]
  | dim + 1, _, a :: y, rfl, h => by
    simp [List.replicate_succ, expand, expand_one idx dim _ y rfl (by simpa using h)]

theorem viewShape_int (idx e : Nat) : ∀ s : List Nat,
    viewShape (List.replicate s.length .full ++ [.int idx]) (s ++ [e]) = s
  | [] => rfl
  | a :: s => by simp [List.replicate_succ, viewShape, viewShape_int idx e s]

theorem expand_int (idx : Nat) : ∀ (n : Nat) (y : List Nat), y.length = n →
    expand (List.replicate n .full ++ [.int idx]) y = y ++ [idx]
  | _, [], rfl => rfl
  | _, a :: y, rfl => by simp [List.replicate_succ, expand, expand_int idx _ y rfl]

theorem trim_spec : ∀ (f : Nat) (a : Arr α), ∃ k,
    a.shape = trimShape f a.shape ++ List.replicate k 1 ∧ (trim f a).shape = trimShape f a.shape ∧
    ∀ x, (trim f a).el x = a.el (x ++ List.replicate k 0)
  | 0, a => ⟨0, by simp [trim, trimShape]⟩
  | f + 1, a => by
    unfold trim trimShape
    split
    next h =>
      obtain ⟨s0, hs⟩ := List.getLast?_eq_some_iff.1 h.2
      obtain ⟨k, hk, hsh, hel⟩ := trim_spec f a.dropLast0
      refine ⟨k + 1, ?_, hsh, fun x => ?_⟩
      · have hk : a.shape.dropLast = trimShape f a.shape.dropLast ++ List.replicate k 1 := hk
        rw [List.replicate_succ', ← List.append_assoc, ← hk, hs, List.dropLast_concat]
      · rw [hel, List.replicate_succ', ← List.append_assoc]
        rfl
    next => exact ⟨0, by simp⟩

theorem trimShape_append (f : Nat) (s : List Nat) : ∃ k, s = trimShape f s ++ List.replicate k 1 :=
  -- the shape part of `trim_spec`, read off any array of shape `s`
  (trim_spec f (⟨s, fun _ => ()⟩ : Arr Unit)).imp fun _ h => h.1

theorem trimShape_length_le (f : Nat) (s : List Nat) : (trimShape f s).length ≤ s.length := by
  obtain ⟨k, hk⟩ := trimShape_append f s
  have := congrArg List.length hk
  simp at this; omega

theorem trimShape_fuel : ∀ (f : Nat) (s : List Nat), s.length ≤ f → trimShape (f + 1) s = trimShape f s
  | 0, s, h => by simp [trimShape]; omega
  | f + 1, s, h => by
    show (if _ then trimShape (f + 1) s.dropLast else s) = if _ then trimShape f s.dropLast else s
    rw [trimShape_fuel f s.dropLast (by simp; omega)]

theorem inRange_pad (t x : List Nat) (k : Nat) (h : InRange t x) :
    InRange (t ++ List.replicate k 1) (x ++ List.replicate k 0) := by
  have hl := inRange_length t x h
  rw [inRange_append, List.take_left' hl, List.drop_left' hl, inRange_ones]
  exact ⟨h, rfl⟩

theorem pad_append {n k : Nat} {x : List Nat} (h : x.length + k ≤ n) :
    pad n (x ++ List.replicate k 0) = pad n x := by
  rw [pad, pad, List.append_assoc, List.replicate_append_replicate, List.length_append,
    List.length_replicate]
  congr 2
  omega

/-- the view `v` that `split` takes, before trimming: along a trailing non-spatial axis an integer
    index removes the axis, along any other a slice of length one makes it singular -/
theorem splitView (a v : Arr α) (dim idx : Nat) (hd : dim < a.shape.length)
    (hv : v = a.index (splitSpecs a.shape.length dim idx)) :
    trimShape a.shape.length v.shape = trimShape a.shape.length (a.shape.set dim 1) ∧
    v.shape.length ≤ a.shape.length ∧
    ∀ y, InRange v.shape y → v.el y = a.el ((pad a.shape.length y).set dim idx) := by
  subst hv
  obtain ⟨s, el⟩ := a
  by_cases hc : 3 ≤ dim ∧ dim + 1 = s.length
  · obtain ⟨s0, e, rfl⟩ : ∃ s0 e, s = s0 ++ [e] :=
      ⟨_, _, (List.dropLast_concat_getLast (List.ne_nil_of_length_pos (Nat.zero_lt_of_lt hd))).symm⟩
    obtain rfl : dim = s0.length := by simpa using hc.2
    have : splitSpecs (s0.length + 1) s0.length idx = List.replicate s0.length .full ++ [.int idx] := by
      simp [splitSpecs_eq, splitSpec, List.replicate_succ', hc.1]
    simp only [Arr.index, List.length_append, List.length_singleton, this, viewShape_int]
    refine ⟨?_, Nat.le_succ _, fun y hy => ?_⟩
    · rw [trimShape_fuel _ _ (Nat.le_refl _), List.set_append_right _ _ (Nat.le_refl _), Nat.sub_self,
        List.set_cons_zero, trimShape, if_pos ⟨by simp; omega, by simp⟩, List.dropLast_concat]
    · have hl := inRange_length _ _ hy
      rw [expand_int idx _ y hl, pad_eq (k := 1) (by omega), ← hl]
      simp
  · have : splitSpecs s.length dim idx = (List.replicate s.length .full).set dim (.one idx) := by
      simp [splitSpecs_eq, splitSpec, hc]
    simp only [Arr.index, this, viewShape_one]
    refine ⟨trivial, by simp, fun y hy => ?_⟩
    have hl : y.length = s.length := by simpa using inRange_length _ _ hy
    obtain ⟨i, hi, hi0⟩ := inRange_getElem? _ _ dim 1 hy (by simp [hd])
    obtain rfl : i = 0 := by omega
    rw [expand_one idx dim _ y hl hi, pad_eq (k := 0) hl, List.replicate_zero, List.append_nil]

/-- **piece `idx` of `split(dim)` is the `idx`-th hyperplane**: for every array and every axis, the
    piece's shape is the parent's with the split axis singular and trailing singular axes beyond the
    third trimmed, and its voxel `x` is the parent's voxel `x` with the split axis fixed to `idx` -/
theorem splitData_spec (a : Arr α) (dim idx : Nat) (hd : dim < a.shape.length) :
    (splitData a dim idx).shape = trimShape a.shape.length (a.shape.set dim 1) ∧
    ∀ x, InRange (splitData a dim idx).shape x →
      (splitData a dim idx).el x = a.el ((pad a.shape.length x).set dim idx) := by
  obtain ⟨h1, h2, h3⟩ := splitView a _ dim idx hd rfl
  simp only [splitData]
  generalize a.index _ = v at h1 h2 h3 ⊢
  obtain ⟨k, hk, hsh, hel⟩ := trim_spec a.shape.length v
  rw [hsh]
  refine ⟨h1, fun x hx => ?_⟩
  -- the piece's index, padded to an index of the view
  have hr := inRange_pad _ _ k hx
  rw [← hk] at hr
  rw [hel, h3 _ hr, pad_append (by have := inRange_length _ _ hr; simp at this; omega)]

/-- as many pieces as the axis is long, in index order -/
theorem splitAll_length (a : Arr α) (dim : Nat) : (splitAll a dim).length = a.shape.getD dim 0 := by
  simp [splitAll]

theorem splitAll_get (a : Arr α) (dim i : Nat) (hi : i < (splitAll a dim).length) :
    (splitAll a dim)[i] = splitData a dim i := by
  simp [splitAll]

/-! ### affines of `split` -/

namespace V3
theorem add_comm (a b : V3) : a.add b = b.add a := by simp [add, Int.add_comm]
theorem add_assoc (a b c : V3) : (a.add b).add c = a.add (b.add c) := by simp [add, Int.add_assoc]
instance : Std.Commutative add := ⟨add_comm⟩
instance : Std.Associative add := ⟨add_assoc⟩
theorem zero_add (u : V3) : zero.add u = u := by simp [add, zero]
theorem add_zero (u : V3) : u.add zero = u := by simp [add, zero]
theorem add_sub_cancel_left (a b : V3) : (a.add b).sub a = b := by
  cases b; simp only [add, sub, mk.injEq]; omega
theorem zero_smul (u : V3) : smul 0 u = zero := by simp [smul, zero]
theorem one_smul (u : V3) : smul 1 u = u := by simp [smul]
theorem add_smul (i j : Int) (u : V3) : smul (i + j) u = (smul i u).add (smul j u) := by
  simp [add, smul, Int.add_mul]
end V3

theorem Aff.shift_zero (A : Aff) : A.shift V3.zero = A := by
  simp [Aff.shift, V3.add_comm A.t, V3.zero_add]

theorem Aff.shift_smul_succ (B : Aff) (u : V3) (m : Nat) :
    (B.shift (V3.smul (m : Int) u)).shift u = B.shift (V3.smul ((m + 1 : Nat) : Int) u) := by
  simp [Aff.shift, V3.add_assoc, V3.add_smul, V3.one_smul]

theorem Aff.shift_succ_sub (B : Aff) (u : V3) (j : Nat) :
    (B.shift (V3.smul ((j + 1 : Nat) : Int) u)).t.sub (B.shift (V3.smul (j : Int) u)).t = u := by
  simp [Aff.shift, V3.add_smul, V3.one_smul, ← V3.add_assoc, V3.add_sub_cancel_left]

/-- loop invariant of the cumulative translation update: entering iteration `idx` the running
    affine is the parent's moved by `idx - 1` steps (none before the second iteration) -/
theorem splitAffLoop_get (u : V3) (B : Aff) :
    ∀ (k idx : Nat) (st : SplitSt), st.aff = B.shift (V3.smul ((idx - 1 : Nat) : Int) u) →
    ∀ j, j < k →
      (splitAffLoop (some u) k idx st)[j]? = some (B.shift (V3.smul ((idx + j : Nat) : Int) u))
  | 0, _, _, _, j, hj => by omega
  | k + 1, idx, st, hst, j, hj => by
    have hstep : (if idx = 0 then st else splitBump u st).aff = B.shift (V3.smul (idx : Int) u) := by
      cases idx with
      | zero => exact hst
      | succ m => exact (congrArg (·.shift u) hst).trans (Aff.shift_smul_succ B u m)
    cases j with
    | zero => exact congrArg some hstep
    | succ j' =>
      rw [← Nat.add_assoc, Nat.add_right_comm]
      exact splitAffLoop_get u B k (idx + 1) _ hstep j' (Nat.lt_of_succ_lt_succ hj)

theorem splitAffLoop_none : ∀ (k idx : Nat) (st : SplitSt) (j : Nat), j < k →
    (splitAffLoop none k idx st)[j]? = some st.aff
  | 0, _, _, j, hj => by omega
  | _ + 1, _, _, 0, _ => rfl
  | k + 1, idx, st, j + 1, hj => splitAffLoop_none k (idx + 1) st j (Nat.lt_of_succ_lt_succ hj)

theorem splitAffLoop_length (u : Option V3) : ∀ (k idx : Nat) (st : SplitSt),
    (splitAffLoop u k idx st).length = k
  | 0, _, _ => rfl
  | k + 1, _, _ => congrArg (· + 1) (splitAffLoop_length u k _ _)

/-- **the affine of piece `i`**: the parent's best affine, moved by `i` steps of the split axis for
    a spatial split and unchanged otherwise — for any number of pieces -/
theorem splitAffs_get (h : Hdr) (dim n i : Nat) (hi : i < n) :
    (splitAffs h dim n)[i]? =
      some (if dim < 3 then h.best.shift (V3.smul (i : Int) (h.best.col dim)) else h.best) := by
  unfold splitAffs
  split
  · have := splitAffLoop_get (h.best.col dim) h.best n 0 ⟨h, h.best⟩
      (by simp [V3.zero_smul, Aff.shift_zero]) i hi
    rwa [Nat.zero_add] at this
  · exact splitAffLoop_none n 0 ⟨h, h.best⟩ i hi

theorem splitAffs_length (h : Hdr) (dim n : Nat) : (splitAffs h dim n).length = n :=
  splitAffLoop_length _ n 0 _

/-- voxel `(x, y, z)` of piece `i` lies where the parent's voxel with `i` added on the split axis
    lies; in particular voxel 0 of the piece is sent to where voxel `i` of the parent was sent -/
theorem shift_apply (A : Aff) (dim : Nat) (i x y z : Int) :
    (A.shift (V3.smul i (A.col dim))).apply x y z =
      match dim with
      | 0 => A.apply (x + i) y z
      | 1 => A.apply x (y + i) z
      | _ => A.apply x y (z + i) := by
  match dim with
  | 0 | 1 | _ + 2 =>
    simp only [Aff.apply, Aff.shift, Aff.col, V3.add_smul]
    ac_rfl

/-- the header a piece is built with reports the piece affine, whatever transforms were coded -/
theorem pieceHdr_best (h : Hdr) (a : Aff) : (pieceHdr h a).best = a := by
  unfold pieceHdr
  by_cases hb : h.best = a
  · rw [if_pos hb]; exact hb
  · rw [if_neg hb]; simp [Hdr.best]

/-- while some transform is coded the shared header's best affine follows the running affine -/
theorem splitBump_best (u : V3) (st : SplitSt) (hc : st.hdr.s.isSome ∨ st.hdr.q.isSome)
    (hb : st.hdr.best = st.aff) : (splitBump u st).hdr.best = (splitBump u st).aff := by
  obtain ⟨⟨s, q, base⟩, aff⟩ := st
  cases s <;> cases q <;> simp_all [splitBump, Hdr.best]

/-! ### acceptance tests and result affine of `from_sequence` -/

/-- `last_trans` when input `i` is examined -/
def prevOf (prevT : Option V3) (affs : List Aff) (i : Nat) : Option V3 :=
  if i = 0 then prevT else (affs[i - 1]?).map (·.t)

theorem prevOf_succ (prevT : Option V3) (a : Aff) (rest : List Aff) (j : Nat) :
    prevOf prevT (a :: rest) (j + 1) = prevOf (some a.t) rest j := by
  cases j <;> rfl

theorem acceptLoop_iff (first : Aff) (dim : Nat) : ∀ (prevT : Option V3) (affs : List Aff),
    acceptLoop first dim prevT affs = true ↔
      ∀ (i : Nat) (a : Aff), affs[i]? = some a →
        acceptInput first dim (prevOf prevT affs i) a = true
  | _, [] => by simp [acceptLoop]
  | prevT, a :: rest => by
    rw [acceptLoop, Bool.and_eq_true, acceptLoop_iff first dim (some a.t) rest]
    constructor
    · rintro ⟨h0, hr⟩ i b hb
      cases i with
      | zero => cases hb; exact h0
      | succ j => rw [prevOf_succ]; exact hr j b hb
    · intro h
      exact ⟨h 0 a rfl, fun j b hb => prevOf_succ prevT a rest j ▸ h (j + 1) b hb⟩

theorem acceptInput_iff (first : Aff) (dim : Nat) (prevT : Option V3) (a : Aff) :
    acceptInput first dim prevT a = true ↔
      (∀ ax, ax < 3 → ax ≠ dim → a.col ax = first.col ax) ∧
      (dim < 3 → V3.sameDir (a.col dim) (first.col dim) = true ∧
        ∀ p, prevT = some p → a.t.sub p ≠ V3.zero ∧ V3.sameDir (a.t.sub p) (a.col dim) = true) := by
  simp only [acceptInput, List.all_eq_true, List.mem_range]
  constructor
  · intro h
    refine ⟨fun ax hax hne => by simpa [hne] using h ax hax, fun hd => ?_⟩
    have := h dim hd
    rw [if_pos rfl, Bool.and_eq_true] at this
    refine ⟨this.2, fun p hp => ?_⟩
    subst hp
    simpa [bne_iff_ne] using this.1
  · rintro ⟨h1, h2⟩ ax hax
    split
    next h =>
      subst h
      obtain ⟨h3, h4⟩ := h2 hax
      cases prevT with
      | none => simpa using h3
      | some p => simpa [bne_iff_ne, h3] using h4 p rfl
    next h => simpa using h1 ax hax h

/-- **which sequences `from_sequence` accepts** (every other sequence is refused with ValueError):
    every input has the first input's axis directions, and along a spatial merge axis every input
    lies strictly ahead of its predecessor -/
theorem mergeAccept_iff (first : Aff) (rest : List Aff) (dim : Nat) :
    mergeAccept (first :: rest) dim = true ↔
      ∀ (i : Nat) (a : Aff), (first :: rest)[i]? = some a →
        (∀ ax, ax < 3 → ax ≠ dim → a.col ax = first.col ax) ∧
        (dim < 3 → V3.sameDir (a.col dim) (first.col dim) = true ∧
          ∀ p, prevOf none (first :: rest) i = some p →
            a.t.sub p ≠ V3.zero ∧ V3.sameDir (a.t.sub p) (a.col dim) = true) := by
  simp only [mergeAccept, acceptLoop_iff, acceptInput_iff]

/-- an input whose non-merged axis differs from the first input's is refused -/
theorem merge_refuses_orientation (first : Aff) (rest : List Aff) (dim i ax : Nat) (a : Aff)
    (hi : (first :: rest)[i]? = some a) (hax : ax < 3) (hne : ax ≠ dim)
    (hdiff : a.col ax ≠ first.col ax) :
    mergeAccept (first :: rest) dim = false := by
  cases hm : mergeAccept (first :: rest) dim with
  | false => rfl
  | true => exact absurd (((mergeAccept_iff first rest dim).1 hm i a hi).1 ax hax hne) hdiff

/-- an input that does not lie strictly ahead of its predecessor along the merge axis is refused -/
theorem merge_refuses_position (first : Aff) (rest : List Aff) (dim i : Nat) (a b : Aff)
    (hd : dim < 3) (ha : (first :: rest)[i]? = some a) (hb : (first :: rest)[i + 1]? = some b)
    (hbad : b.t.sub a.t = V3.zero ∨ V3.sameDir (b.t.sub a.t) (b.col dim) = false) :
    mergeAccept (first :: rest) dim = false := by
  cases hm : mergeAccept (first :: rest) dim with
  | false => rfl
  | true =>
    have h := (((mergeAccept_iff first rest dim).1 hm (i + 1) b hb).2 hd).2 a.t
      (by simp [prevOf, ha])
    rcases hbad with hz | hs
    · exact absurd hz h.1
    · rw [hs] at h; exact absurd h.2 (by simp)

/-- **the merged affine extends the inputs consistently**: for an accepted spatial merge of at
    least two inputs whose positions advance by the step between the first two, position `i` of the
    merge axis of the result lies where voxel 0 of input `i` lies (the axes that are not merged are
    the first input's, which acceptance has shown every input shares) -/
theorem mergeAff_consistent (first second : Aff) (rest : List Aff) (dim : Nat) (hd : dim < 3)
    (hacc : mergeAccept (first :: second :: rest) dim = true)
    (i : Nat) (a : Aff) (hi : (first :: second :: rest)[i]? = some a)
    (ht : a.t = first.t.add (V3.smul (i : Int) (second.t.sub first.t))) (x y z : Int) :
    ∃ R, mergeAff (first :: second :: rest) dim = some R ∧
      (match dim with
        | 0 => R.apply (i : Int) y z = a.apply 0 y z
        | 1 => R.apply x (i : Int) z = a.apply x 0 z
        | _ => R.apply x y (i : Int) = a.apply x y 0) := by
  refine ⟨first.setCol dim (second.t.sub first.t), if_pos hd, ?_⟩
  have hc := ((mergeAccept_iff first (second :: rest) dim).1 hacc i a hi).1
  have h0 : 0 ≠ dim → a.c0 = first.c0 := hc 0 (by decide)
  have h1 : 1 ≠ dim → a.c1 = first.c1 := hc 1 (by decide)
  have h2 : 2 ≠ dim → a.c2 = first.c2 := hc 2 (by decide)
  obtain rfl | rfl | rfl : dim = 0 ∨ dim = 1 ∨ dim = 2 := by omega
  all_goals
    show _ = _
    -- of `h0 h1 h2` the two that apply rewrite; both sides are then the same sum of vectors
    simp only [Aff.apply, Aff.setCol, ht, h0, h1, h2, ne_eq, Nat.reduceEqDiff, not_false_eq_true,
      V3.zero_smul, V3.zero_add, V3.add_zero]
    ac_rfl

/-! ### split, then merge: the voxel data -/

theorem mergeShape_eq (s : List Nat) (d n : Nat) :
    mergeShape s d n = (s ++ List.replicate (d + 1 - s.length) 1).set d n := by
  fun_induction mergeShape s d n <;> simp [List.replicate_succ, *]

theorem embed_eq (x : List Nat) (d i : Nat) : embed x d i = (pad (d + 1) x).set d i := by
  fun_induction embed x d i <;> simp_all [pad, List.replicate_succ]

theorem singular_set : ∀ (s : List Nat) (d : Nat), Singular (s.set d 1) d
  | [], _ => trivial
  | _ :: _, 0 => rfl
  | _ :: s, d + 1 => singular_set s d

theorem singular_append_left (u : List Nat) : ∀ (s : List Nat) (d : Nat), Singular (s ++ u) d → Singular s d
  | [], _, _ => trivial
  | _ :: _, 0, h => h
  | _ :: s, d + 1, h => singular_append_left u s d h

theorem inRange_set : ∀ (s x : List Nat) (d : Nat), InRange s x → InRange (s.set d 1) (x.set d 0)
  | [], [], _, _ => trivial
  | [], _ :: _, _, h => h.elim
  | _ :: _, [], _, h => h.elim
  | _ :: _, _ :: _, 0, h => ⟨Nat.one_pos, h.2⟩
  | _ :: s, _ :: x, d + 1, h => ⟨h.1, inRange_set s x d h.2⟩

theorem trimShape_set (s : List Nat) (dim : Nat) (htrim : trimShape s.length s = s)
    (hl : dim + 1 ≠ s.length) : trimShape s.length (s.set dim 1) = s.set dim 1 := by
  cases hs : s.length with
  | zero => rfl
  | succ f =>
    rw [hs] at htrim
    unfold trimShape at htrim ⊢
    split at htrim
    next hc =>
      have := trimShape_length_le f s.dropLast
      rw [htrim, List.length_dropLast] at this
      omega
    next hc =>
      rw [if_neg]
      rw [List.length_set, List.getLast?_eq_getElem?, List.length_set, List.getElem?_set_ne (by omega),
        ← List.getLast?_eq_getElem?]
      exact hc

/-- the round trip for any number of axes (`from_sequence` itself refuses `dim ≥ 5`) -/
theorem merge_split (blank : α) (a : Arr α) (dim : Nat) (hd : dim < a.shape.length) (h5 : dim < 5)
    (htrim : trimShape a.shape.length a.shape = a.shape) (hn : 0 < a.shape.getD dim 0) :
    ∃ r, mergeData blank (splitAll a dim) dim = .ok r ∧ r.shape = a.shape ∧
      ∀ x, InRange a.shape x → r.el x = a.el x := by
  obtain ⟨s, el⟩ := a
  have hsp := fun i => splitData_spec ⟨s, el⟩ dim i hd
  simp only at hd htrim hn hsp ⊢
  -- the pieces' shape `s'`: the parent's with the split axis singular, less `k` trailing ones
  obtain ⟨k, hk⟩ := trimShape_append s.length (s.set dim 1)
  generalize hs' : trimShape s.length (s.set dim 1) = s' at hk hsp
  have hlen := congrArg List.length hk
  simp only [List.length_set, List.length_append, List.length_replicate] at hlen
  have hK : k = dim + 1 - s'.length := by
    by_cases hl : dim + 1 = s.length
    · omega
    · rw [trimShape_set s dim htrim hl] at hs'
      subst hs'
      simp only [List.length_set] at hlen ⊢
      omega
  have hsh : ∀ p ∈ splitAll ⟨s, el⟩ dim, p.shape = s' :=
    List.forall_mem_map.2 fun i _ => (hsp i).1
  have hne : splitAll ⟨s, el⟩ dim ≠ [] :=
    List.ne_nil_of_length_pos (by rw [splitAll_length]; exact hn)
  obtain ⟨r, h1, h2, h3⟩ := mergeData_spec' blank _ dim s' hne hsh h5
    (singular_append_left _ s' dim (hk ▸ singular_set s dim))
  refine ⟨r, h1, ?_, fun x hx => ?_⟩
  · rw [h2, mergeShape_eq, ← hK, ← hk, List.set_set, splitAll_length]
    simp [hd]
  · obtain ⟨i, hi, hlt⟩ := inRange_getElem? s x dim s[dim] hx (by simp [hd])
    have hy := inRange_set s x dim hx
    rw [hk, inRange_append, inRange_ones] at hy
    have hi' : i < (splitAll ⟨s, el⟩ dim).length := by rw [splitAll_length]; simpa [hd] using hlt
    have := h3 i _ (by rw [List.getElem?_eq_getElem hi', splitAll_get]) _ hy.1
    rw [embed_eq, (hsp i).2 _ ((hsp i).1 ▸ hy.1)] at this
    -- padded to either length, the piece's index is `x` with 0 on the split axis
    have hp : ∀ m, m - s'.length = k → pad m ((x.set dim 0).take s'.length) = x.set dim 0 := by
      intro m hm
      rw [pad, inRange_length _ _ hy.1, hm, ← hy.2, List.take_append_drop]
    rw [hp _ hK.symm, hp _ (by omega), List.set_set] at this
    obtain ⟨_, rfl⟩ := List.getElem?_eq_some_iff.1 hi
    rwa [List.set_getElem_self] at this

/-- **splitting an image and merging the pieces back reproduces its voxel data**: any 3- to 5-D
    array without trailing singular axes beyond the third, any axis of non-zero length -/
theorem merge_split_data (blank : α) (a : Arr α) (dim : Nat) (h3 : 3 ≤ a.shape.length)
    (h5 : a.shape.length ≤ 5) (hd : dim < a.shape.length)
    (htrim : trimShape a.shape.length a.shape = a.shape) (hn : 0 < a.shape.getD dim 0) :
    ∃ r, mergeData blank (splitAll a dim) dim = .ok r ∧ r.shape = a.shape ∧
      ∀ x, InRange a.shape x → r.el x = a.el x :=
  merge_split blank a dim hd (by omega) htrim hn

/-! ### split, then merge: the affine -/

theorem mul_self_nonneg (x : Int) : 0 ≤ x * x :=
  Int.natAbs_mul_self (a := x) ▸ Int.natCast_nonneg _

theorem V3.dot_self_pos (u : V3) (h : u ≠ V3.zero) : 0 < V3.dot u u := by
  obtain ⟨x, y, z⟩ := u
  have hx := mul_self_nonneg x
  have hy := mul_self_nonneg y
  have hz := mul_self_nonneg z
  -- a sum of squares that is not positive has every term zero
  refine Decidable.by_contra fun hn => h ?_
  have e : ∀ {a : Int}, a * a = 0 → a = 0 := fun e => (Int.mul_eq_zero.mp e).elim id id
  simp only [V3.dot] at hn
  obtain ⟨ex, ey, ez⟩ : x * x = 0 ∧ y * y = 0 ∧ z * z = 0 := by omega
  rw [e ex, e ey, e ez]
  rfl

theorem V3.sameDir_self (u : V3) (h : u ≠ V3.zero) : V3.sameDir u u = true := by
  have hc : V3.cross u u = V3.zero := by simp [V3.cross, V3.zero, Int.mul_comm]
  simp [V3.sameDir, hc, V3.dot_self_pos u h]

theorem shift_col (A : Aff) (v : V3) (ax : Nat) : (A.shift v).col ax = A.col ax := by
  match ax with
  | 0 | 1 | _ + 2 => rfl

theorem setCol_col_self (A : Aff) (dim : Nat) (hd : dim < 3) : A.setCol dim (A.col dim) = A := by
  match dim, hd with
  | 0, _ | 1, _ | 2, _ => rfl

/-- **the pieces of a split are accepted by the merge and give the parent's affine back**: any
    number of pieces; for a spatial axis the axis must not be degenerate (zero column) -/
theorem merge_split_affs (h : Hdr) (dim n : Nat) (hn : 0 < n)
    (hu : dim < 3 → h.best.col dim ≠ V3.zero) :
    mergeAccept (splitAffs h dim n) dim = true ∧ mergeAff (splitAffs h dim n) dim = some h.best := by
  have hget := fun i (hi : i < n) => splitAffs_get h dim n i hi
  have hlen := splitAffs_length h dim n
  -- the first iteration leaves the parent's affine as it is
  obtain ⟨rest, hl⟩ : ∃ rest, splitAffs h dim n = h.best :: rest := by
    obtain ⟨m, rfl⟩ := Nat.exists_eq_succ_of_ne_zero (Nat.ne_of_gt hn)
    exact ⟨(splitAffs h dim (m + 1)).tail, by unfold splitAffs; split <;> rfl⟩
  rw [hl] at hget hlen ⊢
  constructor
  · rw [mergeAccept_iff]
    intro i a hi
    have hlt : i < n := hlen ▸ (List.getElem?_eq_some_iff.1 hi).1
    rw [hget i hlt] at hi
    cases hi
    refine ⟨fun ax _ _ => ?_, fun hd => ?_⟩
    · split
      · exact shift_col _ _ ax
      · rfl
    · simp only [if_pos hd, shift_col]
      refine ⟨V3.sameDir_self _ (hu hd), fun p hp => ?_⟩
      cases i with
      | zero => cases hp
      | succ j =>
        simp only [prevOf, Nat.add_one_ne_zero, if_false, Nat.add_sub_cancel, hget j (by omega),
          if_pos hd, Option.map_some, Option.some.injEq] at hp
        subst hp
        rw [Aff.shift_succ_sub]
        exact ⟨hu hd, V3.sameDir_self _ (hu hd)⟩
  · cases rest with
    | nil => rfl
    | cons s rest =>
      have h1 := hget 1 (by simp at hlen; omega)
      cases h1
      by_cases hd : dim < 3 <;>
        simp [mergeAff, hd, Aff.shift, V3.one_smul, V3.add_sub_cancel_left, setCol_col_self]

/-! ### the fill of `DicomStack.get_data` -/

/-- **every output voxel holds the pixel of the file `get_data` assigns to its slice / time /
    vector position** (5-D fill, before trimming) -/
theorem stackFill_el (files : List (Arr α)) (blank : α) (rows cols S T V : Nat)
    (i j s t v : Nat) (f : Arr α) (hf : files[v * (T * S) + t * S + s]? = some f) :
    (stackFill files blank rows cols S T V).el [i, j, s, t, v] = f.el [i, j, 0] := by
  simp only [stackFill, hf]

/-- trimming unused time / vector axes keeps every voxel -/
theorem stackData_el (files : List (Arr α)) (blank : α) (rows cols S T V : Nat)
    (i j s t v : Nat) (f : Arr α) (hf : files[v * (T * S) + t * S + s]? = some f)
    (ht : t < T) (hv : v < V) :
    ((stackData files blank rows cols S T V).shape =
      if V = 1 then (if T = 1 then [rows, cols, S] else [rows, cols, S, T])
      else [rows, cols, S, T, V]) ∧
    (stackData files blank rows cols S T V).el
        (if V = 1 then (if T = 1 then [i, j, s] else [i, j, s, t]) else [i, j, s, t, v]) =
      f.el [i, j, 0] := by
  have hel := stackFill_el files blank rows cols S T V i j s t v f hf
  unfold stackData stackTrim
  by_cases hV : V = 1
  · subst hV
    obtain rfl : v = 0 := by omega
    by_cases hT : T = 1
    · subst hT
      obtain rfl : t = 0 := by omega
      exact ⟨rfl, hel⟩
    · simp only [↓reduceIte, if_neg hT]
      exact ⟨rfl, hel⟩
  · simp only [if_neg hV]
    exact ⟨rfl, hel⟩

/-- **the stack affine sends slice index `s` to where file `s` of the first volume lies**: files
    of the first volume at positions `p0 + s·step`, all with the first file's in-plane axes -/
theorem stackAff_consistent (a b : Aff) (rest : List Aff) (S : Nat) (hS : 1 < S)
    (s : Nat) (f : Aff) (hc0 : f.c0 = a.c0) (hc1 : f.c1 = a.c1)
    (ht : f.t = a.t.add (V3.smul (s : Int) (b.t.sub a.t))) (x y : Int) :
    ∃ R, stackAff (a :: b :: rest) S = some R ∧ R.apply x y (s : Int) = f.apply x y 0 := by
  refine ⟨a.setCol 2 (b.t.sub a.t), if_pos hS, ?_⟩
  simp only [Aff.apply, Aff.setCol, ht, hc0, hc1, V3.zero_smul, V3.zero_add]
  ac_rfl

end Wrap
