import DcmVerif.Proofs.Stack
/-! C11: what `get_shape` accepts. -/
set_option autoImplicit false

namespace Stk

/-- the acceptance conditions of `get_shape`, spelled out -/
structure Accepts (spacingOk : List Int → Bool) (files : List F) (S T V : Nat) : Prop where
  nonempty : files.length ≠ 0
  hS : S = (distinctSorted (files.map (·.p))).length
  spacing : S > 1 → spacingOk (distinctSorted (files.map (·.p))) = true
  divS : files.length % S = 0
  hV : V = (distinctSorted (files.map (·.v))).length
  vle : V ≤ files.length / S
  divV : files.length / S % V = 0
  hT : T = files.length / S / V
  vecOk : (chunks (T * S) V (chkSort S (files.length / S) files)).all allSameV = true
  posOk : (chunks S (files.length / S) (chkSort S (files.length / S) files)).all
            (fun b => b.map (·.p) == distinctSorted (files.map (·.p))) = true

theorem acceptB_iff (spacingOk : List Int → Bool) (files : List F) :
    acceptB spacingOk files = true ↔
      Accepts spacingOk files (dimS files) (dimT files) (dimV files) := by
  simp only [acceptB, Bool.and_eq_true, decide_eq_true_eq, Bool.or_eq_true, Bool.not_eq_true',
    decide_eq_false_iff_not, ← Decidable.imp_iff_not_or]
  exact ⟨fun ⟨⟨⟨⟨⟨⟨h0, hsp⟩, hd⟩, hvle⟩, hdv⟩, hvec⟩, hpos⟩ =>
      ⟨h0, rfl, hsp, hd, rfl, hvle, hdv, rfl, hvec, hpos⟩,
    fun a => ⟨⟨⟨⟨⟨⟨a.nonempty, a.spacing⟩, a.divS⟩, a.vle⟩, a.divV⟩, a.vecOk⟩, a.posOk⟩⟩

theorem getShape_ok_iff (spacingOk : List Int → Bool) (files : List F) (S T V : Nat) :
    getShape spacingOk files = .ok S T V ↔ Accepts spacingOk files S T V := by
  unfold getShape
  constructor
  · intro h
    split at h
    · next hb => cases h; exact (acceptB_iff spacingOk files).mp hb
    · cases h
  · intro a
    obtain rfl : S = dimS files := a.hS
    obtain rfl : V = dimV files := a.hV
    obtain rfl : T = dimT files := a.hT
    rw [if_pos ((acceptB_iff spacingOk files).mpr a)]

/-- **C11 (count):** an accepted stack has exactly S·T·V files -/
theorem accept_count (spacingOk : List Int → Bool) (files : List F) (S T V : Nat)
    (h : getShape spacingOk files = .ok S T V) : files.length = S * T * V := by
  have a := (getShape_ok_iff _ _ _ _ _).mp h
  rw [a.hT]
  exact count_factors a.divS a.divV

/-- **C11 (every volume holds each distinct slice position exactly once, in spatial order)** -/
theorem accept_positions (spacingOk : List Int → Bool) (files : List F) (S T V : Nat)
    (h : getShape spacingOk files = .ok S T V) :
    ∀ b ∈ chunks S (files.length / S) (chkSort S (files.length / S) files),
      b.map (·.p) = distinctSorted (files.map (·.p)) :=
  fun b hb => beq_iff_eq.mp (List.all_eq_true.mp ((getShape_ok_iff _ _ _ _ _).mp h).posOk b hb)

/-- **C11 (each vector value occupies whole blocks of T·S files)** -/
theorem accept_vector_blocks (spacingOk : List Int → Bool) (files : List F) (S T V : Nat)
    (h : getShape spacingOk files = .ok S T V) :
    ∀ b ∈ chunks (T * S) V (chkSort S (files.length / S) files), allSameV b = true :=
  List.all_eq_true.mp ((getShape_ok_iff _ _ _ _ _).mp h).vecOk

/-- **C11 (evenly spaced):** with more than one position the spacing test passed -/
theorem accept_spacing (spacingOk : List Int → Bool) (files : List F) (S T V : Nat)
    (h : getShape spacingOk files = .ok S T V) (hS : S > 1) :
    spacingOk (distinctSorted (files.map (·.p))) = true :=
  ((getShape_ok_iff _ _ _ _ _).mp h).spacing hS

theorem refuse_empty (spacingOk : List Int → Bool) : getShape spacingOk [] = .invalid := by
  simp [getShape, acceptB]

theorem getShape_invalid_iff (spacingOk : List Int → Bool) (files : List F) :
    getShape spacingOk files = .invalid ↔
      ¬ Accepts spacingOk files (dimS files) (dimT files) (dimV files) := by
  rw [← acceptB_iff, getShape]
  split <;> simp [*]

/-- the file count does not factor by the number of distinct positions ⇒ InvalidStackError -/
theorem refuse_not_factoring (spacingOk : List Int → Bool) (files : List F)
    (h : files.length % (distinctSorted (files.map (·.p))).length ≠ 0) :
    getShape spacingOk files = .invalid :=
  (getShape_invalid_iff _ _).mpr fun a => h a.divS

/-- unevenly spaced positions ⇒ InvalidStackError -/
theorem refuse_spacing (spacingOk : List Int → Bool) (files : List F)
    (h1 : (distinctSorted (files.map (·.p))).length > 1)
    (h : spacingOk (distinctSorted (files.map (·.p))) = false) :
    getShape spacingOk files = .invalid :=
  (getShape_invalid_iff _ _).mpr fun a => Bool.false_ne_true (h ▸ a.spacing h1)

/-- vector values unevenly represented (volume count not a multiple of the number of vector
    values, or more vector values than volumes) ⇒ InvalidStackError -/
theorem refuse_vector_count (spacingOk : List Int → Bool) (files : List F)
    (h : files.length / (distinctSorted (files.map (·.p))).length %
           (distinctSorted (files.map (·.v))).length ≠ 0 ∨
         (distinctSorted (files.map (·.v))).length >
           files.length / (distinctSorted (files.map (·.p))).length) :
    getShape spacingOk files = .invalid :=
  (getShape_invalid_iff _ _).mpr fun a => h.elim (· a.divV) (Nat.not_lt.mpr a.vle)

/-- a volume that lacks a position or holds one twice ⇒ InvalidStackError -/
theorem refuse_bad_volume (spacingOk : List Int → Bool) (files : List F)
    (b : List F)
    (hb : b ∈ chunks (distinctSorted (files.map (·.p))).length
            (files.length / (distinctSorted (files.map (·.p))).length)
            (chkSort (distinctSorted (files.map (·.p))).length
              (files.length / (distinctSorted (files.map (·.p))).length) files))
    (hbad : b.map (·.p) ≠ distinctSorted (files.map (·.p))) :
    getShape spacingOk files = .invalid :=
  (getShape_invalid_iff _ _).mpr fun a => hbad (beq_iff_eq.mp (List.all_eq_true.mp a.posOk b hb))

/-! F13: the full-strength claim fails for explicit time ordinates -/

/-- S = 2, T = 3 with explicit time ordinates; the files (s1,t1) and (s0,t2) are missing.
    The four remaining files are accepted as a 2 × 2 grid although volume 1 mixes time points
    1 and 2. -/
def f13 : List F := [⟨0, 0, 0, 0⟩, ⟨0, 0, 1, 1⟩, ⟨0, 1, 0, 2⟩, ⟨0, 2, 1, 3⟩]

theorem f13_accepted : getShape (fun _ => true) f13 = .ok 2 2 1 := by decide

/-- the full-strength claim "every volume of an accepted stack has one time ordinate" -/
def VolumesHaveOneTime (files : List F) (S : Nat) : Prop :=
  ∀ b ∈ chunks S (files.length / S) (chkSort S (files.length / S) files),
    ∀ x ∈ b, ∀ y ∈ b, x.t = y.t

theorem f13_mixes_time : ¬ VolumesHaveOneTime f13 2 := by
  intro h
  have := h [⟨0, 1, 0, 2⟩, ⟨0, 2, 1, 3⟩] (by decide) ⟨0, 1, 0, 2⟩ (by decide) ⟨0, 2, 1, 3⟩ (by decide)
  exact absurd this (by decide)

theorem accept_does_not_imply_one_time :
    ¬ (∀ files S T V, getShape (fun _ => true) files = .ok S T V → VolumesHaveOneTime files S) :=
  fun h => f13_mixes_time (h f13 2 2 1 f13_accepted)

/-- the extracted 4 % tolerance: exactly even spacing passes, a 50 % longer last gap does not -/
example : spacingOkInt 1 25 [0, 10, 20, 30] = true := by decide
example : spacingOkInt 1 25 [0, 10, 20, 35] = false := by decide
example : spacingOkInt 1 25 [0, 100, 200, 302] = true := by decide

end Stk
