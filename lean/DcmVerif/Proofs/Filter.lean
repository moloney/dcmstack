import DcmVerif.Model.Filter
import DcmVerif.Proofs.Key.Dict
/-! C14: the filter removes exactly what it is told to. -/
set_option autoImplicit false

namespace Flt

/-- the extracted default pattern lists contain no regular-expression metacharacter, so
    `re.search` on them is substring search -/
theorem default_lists_literal : (Gen.defaultExcl ++ Gen.defaultIncl).all isLiteral = true := by
  decide +kernel

theorem infixB_iff (sub l : List Char) : infixB sub l = true ↔ ∃ pre post, l = pre ++ sub ++ post := by
  have : infixB sub l = true ↔ sub <:+: l := by
    induction l with
    | nil => simp [infixB]
    | cons c cs ih => simp [infixB, ih, List.infix_cons_iff]
  rw [this]
  exact ⟨fun ⟨s, t, h⟩ => ⟨s, t, h.symm⟩, fun ⟨s, t, h⟩ => ⟨s, t, h.symm⟩⟩

/-- **exclude unless included, for the default lists:** a key is removed iff it contains one of
    the exclude words and none of the include words -/
theorem defaultFilter_iff (k : String) :
    defaultFilter k = true ↔
      (∃ e ∈ Gen.defaultExcl, matchLit e k = true) ∧ ¬ ∃ i ∈ Gen.defaultIncl, matchLit i k = true :=
  regexFilter_iff matchLit Gen.defaultExcl Gen.defaultIncl k

/-- no key matching an exclude pattern survives unless it also matches an include pattern -/
theorem default_excluded (k : String) (e : String) (he : e ∈ Gen.defaultExcl)
    (hm : matchLit e k = true) (hi : ∀ i ∈ Gen.defaultIncl, matchLit i k = false) :
    defaultFilter k = true :=
  (defaultFilter_iff k).mpr
    ⟨⟨e, he, hm⟩, fun ⟨i, hi', hmi⟩ => Bool.false_ne_true ((hi i hi').symm.trans hmi)⟩

/-- image position and orientation are always kept -/
theorem default_keeps_included (k : String) (i : String) (hi : i ∈ Gen.defaultIncl)
    (hm : matchLit i k = true) : defaultFilter k = false :=
  Bool.eq_false_iff.mpr fun h => ((defaultFilter_iff k).mp h).2 ⟨i, hi, hm⟩

/-- a key matching no exclude pattern is kept -/
theorem default_keeps_unmatched (k : String) (h : ∀ e ∈ Gen.defaultExcl, matchLit e k = false) :
    defaultFilter k = false :=
  Bool.eq_false_iff.mpr fun hf =>
    have ⟨⟨e, he, hm⟩, _⟩ := (defaultFilter_iff k).mp hf
    Bool.false_ne_true ((h e he).symm.trans hm)

/-- concrete keys under the extracted default lists -/
theorem default_examples :
    defaultFilter "PatientName" = true ∧ defaultFilter "StudyDate" = true ∧
    defaultFilter "SeriesInstanceUID" = true ∧ defaultFilter "InstitutionName" = true ∧
    defaultFilter "ImagePositionPatient" = false ∧ defaultFilter "ImageOrientationPatient" = false ∧
    defaultFilter "EchoTime" = false ∧ defaultFilter "CsaImage.ImaPATModeText" = false ∧
    defaultFilter "ReferringPhysicianName" = true := by decide +kernel

/-- extra exclude / include patterns compose as exclude-unless-included -/
theorem cliFilter_iff (extraExcl extraIncl : List String) (k : String) :
    cliFilter extraExcl extraIncl k = true ↔
      (∃ e ∈ Gen.defaultExcl ++ extraExcl, matchLit e k = true) ∧
        ¬ ∃ i ∈ Gen.defaultIncl ++ extraIncl, matchLit i k = true :=
  regexFilter_iff matchLit _ _ k

end Flt
