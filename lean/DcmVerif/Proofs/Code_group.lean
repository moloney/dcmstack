import DcmVerif.Generated.Code_group
import DcmVerif.Proofs.Group
import DcmVerif.Proofs.CodeLemmas
/-! The placement step of `parse_and_group` as translated from dcmstack.py is the model's `Grp.place`. -/
set_option autoImplicit false

namespace Src
open Grp
variable {E V : Type} [DecidableEq E]

/-- one close value of a sub-result agrees with the file's: both None, or both present and `np.allclose` -/
def goodV (closeV : V → V → Bool) (close_list : List (Option V)) (p : Option V × Nat) : Bool :=
  (p.1.isNone && (close_list[p.2]?).join.isNone) ||
    (!p.1.isNone && !(close_list[p.2]?).join.isNone &&
      match p.1, (close_list[p.2]?).join with
      | some a_, some b_ => closeV a_ b_
      | _, _ => false)

/-- the comparison of a sub-result's close key with the file's (the inner loop of the placement step) -/
def closeAll (closeV : V → V → Bool) (rep c : List (Option V)) : Bool := rep.zipIdx.all (goodV closeV c)

section dict
variable {C : Type}

theorem outer_loop (closeB : C → C → Bool) (id : Nat) (c : C) (results : List (E × Subs C)) (key : E)
    (f : (C × List Nat) × Nat → List (E × Subs C) × Bool → Except PyErr (ForInStep (List (E × Subs C) × Bool)))
    (hf : ∀ x s, f x s = if closeB x.1.1 c = true then
        pure (ForInStep.done (dictSet s.1 key ((dictGet s.1 key).set x.2 (x.1.1, x.1.2 ++ [id])), true))
      else pure (ForInStep.yield (s.1, s.2))) :
    ∀ (suf pre : Subs C), dictGet results key = pre ++ suf →
      forIn (suf.zipIdx pre.length) (results, false) f =
        .ok (if suf.any (fun p => closeB p.1 c) then (dictSet results key (pre ++ placeSub closeB id c suf), true)
             else (results, false))
  | [], pre, _ => by simp; rfl
  | x :: xs, pre, hg => by
    rw [List.zipIdx_cons, List.forIn_cons, hf]
    obtain ⟨rep, ids⟩ := x
    cases hx : closeB rep c
    · simp only [hx, Bool.false_eq_true, if_false, pure_bind, List.any_cons, Bool.false_or]
      have ih := outer_loop closeB id c results key f hf xs (pre ++ [(rep, ids)]) (by simp [hg])
      simp only [List.length_append, List.length_cons, List.length_nil, Nat.zero_add] at ih
      rw [ih]
      simp [placeSub, hx, List.append_assoc]
    · simp only [hx, if_true, pure_bind, List.any_cons, Bool.true_or, hg, placeSub]
      have : (pre ++ (rep, ids) :: xs).set pre.length (rep, ids ++ [id]) = pre ++ (rep, ids ++ [id]) :: xs := by
        simp
      simp [this]
      rfl

theorem place_absent (closeB : C → C → Bool) (id : Nat) (e : E) (c : C) (results : List (E × Subs C))
    (h : dictHas results e = false) : place closeB id e c results = dictSet results e [(c, [id])] := by
  have h' : ∀ x ∈ results, ¬ x.1 = e := by simpa [dictHas] using h
  rw [place_eq_upsert, upsert_new _ _ _ _ h', dictSet, if_neg (by exact Bool.eq_false_iff.mp h)]

theorem place_present [Inhabited (Subs C)] (closeB : C → C → Bool) (id : Nat) (e : E) (c : C)
    (results : List (E × Subs C)) (hnd : (results.map (·.1)).Nodup) (h : dictHas results e = true) :
    place closeB id e c results = dictSet results e (placeSub closeB id c (dictGet results e)) := by
  rw [dictSet_modify results hnd e ((dictHas_iff _ _).1 h)]
  induction results with
  | nil => simp [dictHas] at h
  | cons x rest ih =>
    obtain ⟨e', subs⟩ := x
    rw [List.map_cons, List.nodup_cons] at hnd
    by_cases he : e' = e
    · subst he
      -- no later entry has this key
      have : ∀ p ∈ rest, (if p.1 = e' then (p.1, placeSub closeB id c p.2) else p) = p :=
        fun p hp => if_neg fun hpe => hnd.1 (List.mem_map.mpr ⟨p, hp, hpe⟩)
      simp [place, List.map_congr_left this]
    · have h' : dictHas rest e = true := by simpa [dictHas, he] using h
      simp [place, he, ih hnd.2 h']

end dict

/-- **the placement step of `parse_and_group` as written in dcmstack.py is the model's `Grp.place`** (closeness of two close keys
    being the element-wise comparison the inner loop makes), for a `results` dictionary — an association list with pairwise
    different keys: a new exact key gets a new entry, otherwise the file joins the first sub-result whose close key agrees, or
    opens a new one -/
theorem group_place_eq (closeV : V → V → Bool) (results : List (E × Subs (List (Option V)))) (key : E)
    (c : List (Option V)) (id : Nat) (hnd : (results.map (·.1)).Nodup) :
    Py.group_place closeV results key c id = .ok (place (closeAll closeV) id key c results) := by
  unfold Py.group_place
  cases h : dictHas results key
  · simp [h, place_absent _ _ _ _ _ h, pure, Except.pure]
  · simp only [h, if_true]
    rw [place_present (closeAll closeV) id key c results hnd h]
    rw [show (dictGet results key).zipIdx = (dictGet results key).zipIdx ([] : Subs (List (Option V))).length from rfl,
      outer_loop (E := E) (closeAll closeV) id c results key _ ?hf (dictGet results key) [] (by simp)]
    case hf =>
      intro x s
      rw [forIn_exit (goodV closeV c) true _ _ _ ?hf2]
      case hf2 =>
        intro y _
        change (if (!goodV closeV c y) = true then _ else _) = _
        cases goodV closeV c y <;> rfl
      rw [ok_bind', closeAll]
      cases x.1.1.zipIdx.all (goodV closeV c) <;> rfl
    simp only [List.nil_append]
    cases hany : (dictGet results key).any (fun p => closeAll closeV p.1 c)
    · simp only [Bool.false_eq_true, if_false, ok_bind', placeSub_new _ _ _ _ (by simpa using hany)]
      simp [pure, Except.pure]
    · simp only [if_true, ok_bind']
      simp [pure, Except.pure]

/-! the translated step computes (tests, not theorems): same close key joins, another one opens a sub-result, a new exact key a
    new entry -/
example : Py.group_place (fun (a b : Int) => a == b) [(7, [([some 1], [0])])] 7 [some 1] 5 = .ok [(7, [([some 1], [0, 5])])] := by rfl
example : Py.group_place (fun (a b : Int) => a == b) [(7, [([some 1], [0])])] 7 [some 2] 5 =
    .ok [(7, [([some 1], [0]), ([some 2], [5])])] := by rfl
example : Py.group_place (fun (a b : Int) => a == b) [(7, [([some 1], [0])])] 8 [none] 5 =
    .ok [(7, [([some 1], [0])]), (8, [([none], [5])])] := by rfl

end Src
