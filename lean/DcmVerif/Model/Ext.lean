import DcmVerif.Model.Key
/-! Extension level of the DcmMeta model: shape bookkeeping of `make_empty`, `get_subset`,
`from_sequence` (dcmmeta.py) around the per-key operations of `Model/Key.lean`.

An extension is kept as a *flat* list of `(key, class, values)` entries (a constant is a
one-element list); the order of keys inside a classification dictionary is not part of this
model (it is compared by the correspondence where a property is about order).  By construction
what a result says about one key is the per-key operation applied to what the inputs say about
that key — the factorisation of C13 — and the tie of that construction to the two loops of
`_insert` is the correspondence check. -/
set_option autoImplicit false
open Cls

/-- outcome of a modelled API call: a value, a Python exception kind, or "outside the modelled
    region" (the harness then relies on the implementation-side oracle only) -/
inductive Res (β : Type)
  | ok (b : β)
  | valueError
  | indexError
  | otherError
  | skip (why : String)

namespace Res
def ofExcept {β : Type} : Except Err β → Res β
  | .ok b => .ok b
  | .error .valueError => .valueError
  | .error .other => .otherError
def bind {β γ : Type} (r : Res β) (f : β → Res γ) : Res γ :=
  match r with
  | .ok b => f b
  | .valueError => .valueError
  | .indexError => .indexError
  | .otherError => .otherError
  | .skip w => .skip w
instance : Monad Res where
  pure := .ok
  bind := Res.bind
end Res

structure DExt (κ α : Type) where
  shape : List Nat
  sliceDim : Option Nat
  hasTime : Bool              -- 'time' in _content
  hasVector : Bool            -- 'vector' in _content
  ents : List (κ × Cls × List α)

/-- `while result_shape[-1] == 1 and len(result_shape) > 3: result_shape = result_shape[:-1]`,
    on the reversed list -/
def trimRev : List Nat → List Nat
  | 1 :: rest => if 3 ≤ rest.length then trimRev rest else 1 :: rest
  | l => l
def trimTrailing (l : List Nat) : List Nat := (trimRev l.reverse).reverse

/-- decidable mirror of `Consistent` (proved equivalent in `Proofs/Ext.lean`) -/
def Shp.okB (sh : Shp) : Bool :=
  decide (0 < sh.S) && decide (0 < sh.T) && decide (0 < sh.V) &&
  (sh.nd == 3 || sh.nd == 4 || sh.nd == 5) &&
  (sh.nd != 3 || (sh.T == 1 && sh.V == 1)) && (sh.nd != 4 || sh.V == 1) &&
  sh.hasSlice &&
  (sh.hasTime == (decide (4 ≤ sh.nd) && sh.T != 1)) &&
  (sh.hasVector == (sh.nd == 5)) &&
  (sh.nd != 4 || sh.T != 1)

/-- run per-key computations in order: the first exception wins; keys whose result is "absent"
    are left out -/
def Res.collect {β : Type} : List (Res (Option β)) → Res (List β)
  | [] => .ok []
  | r :: rs =>
    match r with
    | .ok ob =>
      (match Res.collect rs with
       | .ok l => .ok (match ob with | some b => b :: l | none => l)
       | .valueError => .valueError
       | .indexError => .indexError
       | .otherError => .otherError
       | .skip w => .skip w)
    | .valueError => .valueError
    | .indexError => .indexError
    | .otherError => .otherError
    | .skip w => .skip w

namespace DExt
variable {κ α : Type} [DecidableEq κ] [DecidableEq α]

/-- the digest per-key operations read; `sdArg` is the `slice_dim` argument that
    `_get_changed_class` falls back to when the extension has no slice dimension itself -/
def shp (e : DExt κ α) (sdArg : Option Nat := none) : Shp :=
  { nd := e.shape.length
    S := match e.sliceDim with
      | some d => e.shape.getD d 1
      | none => (match sdArg with | some d => e.shape.getD d 1 | none => 1)
    T := e.shape.getD 3 1
    V := e.shape.getD 4 1
    hasSlice := e.sliceDim.isSome
    hasTime := e.hasTime
    hasVector := e.hasVector }

/-- `get_values_and_class(key)` -/
def key (e : DExt κ α) (k : κ) : KeyState α :=
  (e.ents.find? fun x => x.1 == k).map fun x => x.2

def keys (e : DExt κ α) : List κ := (e.ents.map (·.1)).eraseDups

/-- every entry sits in a valid class with the right number of values, each key once -/
def validB (e : DExt κ α) : Bool :=
  e.ents.all (fun x => decide (x.2.1 ∈ validClasses e.shp) &&
    (x.2.2.length == (if x.2.1 = gconst then 1 else mult e.shp x.2.1))) &&
  decide ((e.ents.map (·.1)).Nodup)

/-- `DcmMetaExtension.make_empty(shape, affine, None, slice_dim)` (with the F1 repair: a 4-D
    shape always gets its `time` dictionaries) -/
def makeEmpty (shape : List Nat) (sd : Option Nat) : Res (DExt κ α) :=
  if ¬ (3 ≤ shape.length ∧ shape.length < 6) then .valueError
  else if sd.any (fun d => decide (3 ≤ d)) then .valueError
  else .ok { shape := shape, sliceDim := sd
             hasTime := decide (3 < shape.length) && (shape.getD 3 1 != 1 || shape.length == 4)
             hasVector := decide (4 < shape.length)
             ents := [] }

def subsetShape (shape : List Nat) (dim : Nat) : List Nat := trimTrailing (shape.set dim 1)

/-- what `get_subset(dim, idx)` makes of one entry: per-key subset by axis, then
    `result.get_class_dict(cls)[key] = …` (KeyError when the trimmed result lacks the base) -/
def subsetEntry (null : α) (sh rsh : Shp) (sliceDim : Option Nat) (dim idx : Nat)
    (x : κ × Cls × List α) : Res (Option (κ × Cls × List α)) :=
  let out : Except Err (KeyState α) :=
    if sliceDim = some dim then subsetSliceK null sh (some x.2) idx
    else if dim < 3 then .ok (some x.2)
    else if dim = 3 then subsetTimeK null sh (some x.2) idx
    else subsetVecK null sh (some x.2) idx
  match Res.ofExcept out with
  | .ok (some v) => if basePresent rsh v.1 then .ok (some (x.1, v)) else .otherError
  | .ok none => .ok none
  | .valueError => .valueError
  | .indexError => .indexError
  | .otherError => .otherError
  | .skip w => .skip w

/-- `get_subset(dim, idx)` -/
def getSubset (null : α) (e : DExt κ α) (dim idx : Nat) : Res (DExt κ α) :=
  if 5 ≤ dim then .valueError
  else if e.shape.length ≤ dim then .indexError
  else if (e.shape.length == 4 && e.shape.getD 3 1 == 1) || (e.shape.length == 5 && e.shape.getD 4 1 == 1)
    then .skip "parent with a singleton trailing axis (finding F23 region)"
  else if !e.validB then .skip "invalid parent"
  else if e.shape.getD dim 0 ≤ idx then .skip "index out of range"
  else
    match makeEmpty (κ := κ) (α := α) (subsetShape e.shape dim) e.sliceDim with
    | .ok r0 =>
      (match Res.collect (e.ents.map (subsetEntry null e.shp r0.shp e.sliceDim dim idx)) with
       | .ok ents => .ok { r0 with ents := ents }
       | .valueError => .valueError
       | .indexError => .indexError
       | .otherError => .otherError
       | .skip w => .skip w)
    | .valueError => .valueError
    | .indexError => .indexError
    | .otherError => .otherError
    | .skip w => .skip w

/-- `filter_meta(filter_func)` for a filter that looks at the key only (as the regex filter does):
    every valid classification loses exactly the keys the filter returns true for -/
def filterMeta (e : DExt κ α) (drop : κ → Bool) : DExt κ α :=
  { e with ents := e.ents.filter fun x => !drop x.1 }

/-- `clear_slice_meta()` -/
def clearSliceMeta (e : DExt κ α) : DExt κ α :=
  { e with ents := e.ents.filter fun x => !perSlice x.2.1 }

/-- what input `i` contributes for one key: its per-slice data is ignored when its slice normal
    differs from the result's (`use_slices` false) -/
def effKey (e : DExt κ α) (useSlices : Bool) (k : κ) : KeyState α :=
  match e.key k with
  | some (c, v) => if perSlice c && !useSlices then none else some (c, v)
  | none => none

def sameGeom (a b : DExt κ α) : Bool :=
  a.shape == b.shape && a.sliceDim == b.sliceDim && a.hasTime == b.hasTime &&
  a.hasVector == b.hasVector

/-- `from_sequence` restricted to one key: the per-key merge for the axis, then the final simplify
    of a key that ended in global slices -/
def mergeKey (null : α) (sh1 osh : Shp) (sd : Option Nat) (dim : Nat) (es : List (DExt κ α))
    (use : List Bool) (k : κ) : Res (Option (κ × Cls × List α)) :=
  let inputs := (es.zip use).map fun p => effKey p.1 p.2 k
  let out : Except Err (KeyState α) :=
    if sd = some dim then mergeSliceK null sh1 inputs
    else if dim < 3 then
      match inputs with
      | [] => .error .other
      | a :: tl =>
        match foldNonSliceK null sh1 a tl with
        | .error err => .error err
        | .ok r => (match r with
            | some (gslices, _) => applySimplify null sh1 r
            | _ => .ok r)
    else if dim = 3 then mergeTimeK null sh1 osh inputs
    else mergeVecK null sh1 osh inputs
  match Res.ofExcept out with
  | .ok r => .ok (r.map fun v => (k, v))
  | .valueError => .valueError
  | .indexError => .indexError
  | .otherError => .otherError
  | .skip w => .skip w

/-- `if slice_dim is None: slice_dim = first_input.slice_dim` -/
def pickSd (sdArg : Option Nat) (first : DExt κ α) : Option Nat :=
  match sdArg with
  | some d => some d
  | none => first.sliceDim

def outShapeOf (first : DExt κ α) (dim n : Nat) : List Nat :=
  (first.shape ++ List.replicate (dim + 1 - first.shape.length) 1).set dim n

/-- `DcmMetaExtension.from_sequence(seq, dim, affine, slice_dim)`; `use[i]` is the outcome of the
    slice-normal comparison for input `i` (a float computation, supplied by the caller) -/
def fromSequence (null : α) (es : List (DExt κ α)) (dim : Nat) (sdArg : Option Nat)
    (use : List Bool) : Res (DExt κ α) :=
  if 5 ≤ dim then .valueError else
  match es with
  | [] => .indexError
  | first :: rest =>
    if dim < first.shape.length ∧ first.shape.getD dim 1 ≠ 1 then .valueError
    else
      let outShape := outShapeOf first dim es.length
      let sd := pickSd sdArg first
      match makeEmpty (κ := κ) (α := α) outShape sd with
      | .ok r0 =>
        if !(rest.all (sameGeom first)) then .skip "inputs of different geometry" else
        if !(es.all validB) then .skip "invalid input" else
        if use.length ≠ es.length then .skip "bad use-slices vector" else
        -- the result while it holds only the first input: merge axis has length 1
        let sh1 := ({ r0 with shape := outShape.set dim 1 } : DExt κ α).shp
        let osh := first.shp sd
        (match Res.collect (((es.flatMap keys).eraseDups).map (mergeKey null sh1 osh sd dim es use)) with
         | .ok ents => .ok { r0 with ents := ents }
         | .valueError => .valueError
         | .indexError => .indexError
         | .otherError => .otherError
         | .skip w => .skip w)
      | .valueError => .valueError
      | .indexError => .indexError
      | .otherError => .otherError
      | .skip w => .skip w

/-- the hypotheses of the merge theorems hold for this call: valid inputs of one geometry and
    `Consistent` result shape for slice / non-slice spatial merges (`mergeSlice_run`,
    `mergeNonSlice_spec`); 3-D inputs for time merges (`mergeTime_run`); 3-D or trimmed 4-D inputs
    for vector merges (`mergeVec_run`) -/
def fromSequenceInDomain (es : List (DExt κ α)) (dim : Nat) (sdArg : Option Nat) : Bool :=
  match es with
  | [] => false
  | first :: rest =>
    let outShape := outShapeOf first dim es.length
    let sd := pickSd sdArg first
    match makeEmpty (κ := κ) (α := α) outShape sd with
    | .ok r0 =>
      let sh1 := ({ r0 with shape := outShape.set dim 1 } : DExt κ α).shp
      let osh := first.shp sd
      rest.all (sameGeom first) && es.all validB && decide (2 ≤ es.length) && sd.isSome &&
        first.sliceDim.isSome &&
        (if sd = some dim then sh1.okB
         else if dim < 3 then sh1.okB
         else if dim = 3 then
           decide (0 < sh1.S) && sh1.nd == 4 && sh1.V == 1 && !sh1.hasVector &&
             osh.nd == 3 && osh.S == sh1.S && osh.T == 1 && osh.V == 1
         else
           decide (0 < sh1.S) && decide (0 < sh1.T) && sh1.nd == 5 && sh1.hasVector &&
             (!sh1.hasTime || sh1.T != 1) && osh.S == sh1.S && osh.T == sh1.T && osh.V == 1 &&
             ((osh.nd == 3 && sh1.T == 1) || (osh.nd == 4 && sh1.T != 1)))
    | _ => false

def getSubsetInDomain (e : DExt κ α) (dim idx : Nat) : Bool :=
  e.shp.okB && e.validB && decide (idx < e.shape.getD dim 0) &&
    (if e.sliceDim = some dim then true
     else if dim < 3 then true
     else if dim = 3 then e.shape.length == 4
     else e.shape.length == 5)

end DExt
